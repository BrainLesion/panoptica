/-
  C03 / C01, many-to-one matching (`allow_many_to_one=True`) — "whenever the documented procedure determines the answer
  uniquely, the library's answer is that answer": with many-to-one matching a reference may receive several predictions,
  so only candidates of the *same prediction* compete. If no prediction has two equally good eligible candidates, then EVERY
  assignment that is sound, gives each prediction at most one reference and leaves an eligible candidate out only in favour
  of a strictly better candidate of the same prediction is, as a set of pairs, the assignment computed by the threshold
  matcher with many-to-one enabled: every prediction with an eligible candidate goes to its best reference.
-/
import Panoptica.Properties.C03Unique
import Panoptica.Proofs.UniqueM2O
namespace Panoptica.C03
open Panoptica

variable {S : Type} (le : S → S → Bool) (dec : Bool) (thr : S)

/-- a many-to-one assignment `M` (list of (pred, ref)) that a reader of the documentation would accept -/
structure ValidMatchingM2O (cs : List (Cand S)) (M : List (Lab × Lab)) : Prop where
  /-- every assigned pair is a candidate whose score meets the threshold -/
  sound : ∀ e ∈ M, ∃ c ∈ cs, c.pred = e.1 ∧ c.ref = e.2 ∧ beats le dec c.score thr = true
  /-- each prediction is used at most once (references may repeat) -/
  predsNodup : (M.map (·.1)).Nodup
  /-- an eligible candidate is left out only in favour of a strictly better pair of the same prediction -/
  stable : ∀ c ∈ cs, beats le dec c.score thr = true → (c.pred, c.ref) ∉ M →
    ∃ c' ∈ cs, (c'.pred, c'.ref) ∈ M ∧ c'.pred = c.pred ∧ strictlyBetterC le dec c' c = true

/-- no prediction has two distinct equally good eligible candidates, and no label pair is listed twice -/
structure DeterminedM2O (cs : List (Cand S)) : Prop where
  keysNodup : (cs.map (fun c => (c.pred, c.ref))).Nodup
  distinct : ∀ a ∈ cs, ∀ b ∈ cs, (a.pred, a.ref) ≠ (b.pred, b.ref) → a.pred = b.pred →
    beats le dec a.score thr = true → beats le dec b.score thr = true →
    strictlyBetterC le dec a b = true ∨ strictlyBetterC le dec b a = true

/-- "strictly better" is asymmetric -/
private theorem strictlyBetterC_asymm (a b : Cand S) :
    strictlyBetterC le dec a b = true → strictlyBetterC le dec b a = true → False := by
  intro h1 h2
  simp only [strictlyBetterC, Bool.and_eq_true, Bool.not_eq_true'] at h1 h2
  rw [h1.1] at h2
  exact absurd h2.2 (by decide)

/-- a valid many-to-one assignment in the abstract form of `Panoptica/Proofs/UniqueM2O.lean` -/
private theorem ValidMatchingM2O.good {cs : List (Cand S)} {M : List (Lab × Lab)}
    (hM : ValidMatchingM2O le dec thr cs M) :
    GoodMatchM2O (fun c : Cand S => (c.pred, c.ref)) (fun c => beats le dec c.score thr = true)
      (fun a b => strictlyBetterC le dec a b = true) cs M where
  sound := by
    intro e he
    obtain ⟨c, hc, h1, h2, hb⟩ := hM.sound e he
    exact ⟨c, hc, by rw [h1, h2], hb⟩
  preds := hM.predsNodup
  stable := hM.stable

/-- the one-to-one notion of "determined" is the stronger one -/
theorem Determined.toM2O {cs : List (Cand S)} (h : Determined le dec thr cs) : DeterminedM2O le dec thr cs := by
  refine ⟨h.keysNodup, ?_⟩
  intro a ha b hb hne hp hba hbb
  exact h.distinct a ha b hb hne (by simp [competes, hp]) hba hbb

/-- the matcher's own result is such an assignment (when the answer is determined) -/
theorem naive_valid_m2o (htot : ∀ a b, le a b = true ∨ le b a = true)
    (htrans : ∀ a b c, le a b = true → le b c = true → le a c = true)
    (cs : List (Cand S)) (hd : DeterminedM2O le dec thr cs) :
    ValidMatchingM2O le dec thr cs (naiveLoop le dec thr true (sortBest le dec cs)) := by
  have hpred : ∀ a b : Cand S, (a.pred = b.pred ∨ (true = false ∧ a.ref = b.ref)) → a.pred = b.pred := by
    rintro a b (h | ⟨h, _⟩)
    · exact h
    · cases h
  have hinv := naiveLoop_inv' le dec thr true (sortBest le dec cs)
  refine ⟨fun e he => ?_, hinv.functional, fun c hc hb hnot => ?_⟩
  · obtain ⟨c, hc, h⟩ := hinv.sound e he
    exact ⟨c, (sortBest_sorted le dec htot htrans cs).2.mem_iff.1 hc, h⟩
  · obtain ⟨c', hc', hin, hconf, hsb⟩ := naive_stable le dec thr true htot htrans cs
      (fun a ha b hb hne hconf => hd.distinct a ha b hb hne (hpred a b hconf)) c hc hb hnot
    exact ⟨c', hc', hin, hpred c' c hconf, hsb⟩

/-- uniqueness: any such assignment has exactly the pairs of the matcher's result -/
theorem unique_m2o (htot : ∀ a b, le a b = true ∨ le b a = true)
    (htrans : ∀ a b c, le a b = true → le b c = true → le a c = true)
    (cs : List (Cand S)) (hd : DeterminedM2O le dec thr cs)
    (M : List (Lab × Lab)) (hM : ValidMatchingM2O le dec thr cs M) :
    ∀ e, e ∈ M ↔ e ∈ naiveLoop le dec thr true (sortBest le dec cs) := by
  exact goodMatchM2O_unique hd.keysNodup (strictlyBetterC_asymm le dec)
    (hM.good le dec thr) ((naive_valid_m2o le dec thr htot htrans cs hd).good le dec thr)

/-- hence the number of assigned predictions is determined -/
theorem unique_length_m2o (htot : ∀ a b, le a b = true ∨ le b a = true)
    (htrans : ∀ a b c, le a b = true → le b c = true → le a c = true)
    (cs : List (Cand S)) (hd : DeterminedM2O le dec thr cs)
    (M : List (Lab × Lab)) (hM : ValidMatchingM2O le dec thr cs M) :
    M.length = (naiveLoop le dec thr true (sortBest le dec cs)).length := by
  apply length_eq_of_nodup_of_mem_iff
  · exact nodup_of_nodup_map _ _ hM.predsNodup
  · exact nodup_of_nodup_map _ _ (functional le dec thr true _)
  · exact unique_m2o le dec thr htot htrans cs hd M hM

/-- every prediction with an eligible candidate is assigned, and to a reference at least as good as any of its eligible
    candidates (no determinedness needed) -/
theorem m2o_best_of_prediction (htot : ∀ a b, le a b = true ∨ le b a = true)
    (htrans : ∀ a b c, le a b = true → le b c = true → le a c = true)
    (cs : List (Cand S)) (c : Cand S) (hc : c ∈ cs) (hb : beats le dec c.score thr = true) :
    ∃ c' ∈ cs, c'.pred = c.pred ∧ (c'.pred, c'.ref) ∈ naiveLoop le dec thr true (sortBest le dec cs) ∧
      betterEq le dec c' c = true := by
  obtain ⟨hsorted, hperm⟩ := sortBest_sorted le dec htot htrans cs
  by_cases hin : (c.pred, c.ref) ∈ naiveLoop le dec thr true (sortBest le dec cs)
  · refine ⟨c, hc, rfl, hin, ?_⟩
    unfold betterEq
    cases dec
    · rcases htot c.score c.score with h | h <;> simpa using h
    · rcases htot c.score c.score with h | h <;> simpa using h
  · obtain ⟨c', hc', hin', hconf, hbe⟩ :=
      best_first le dec thr true _ hsorted c (hperm.mem_iff.2 hc) hb hin
    refine ⟨c', hperm.mem_iff.1 hc', ?_, hin', hbe⟩
    rcases hconf with h | ⟨h, _⟩
    · exact h
    · exact absurd h (by decide)

/-- non-vacuity: two predictions whose best reference is the same one (a genuinely many-to-one answer); Nat scores,
    higher is better, threshold 5 -/
example : DeterminedM2O (fun a b : Nat => decide (a ≤ b)) false 5
      [⟨9, 1, 1⟩, ⟨7, 1, 2⟩, ⟨8, 2, 1⟩, ⟨3, 2, 2⟩] ∧
    naiveLoop (fun a b : Nat => decide (a ≤ b)) false 5 true
      (sortBest (fun a b : Nat => decide (a ≤ b)) false [⟨9, 1, 1⟩, ⟨7, 1, 2⟩, ⟨8, 2, 1⟩, ⟨3, 2, 2⟩]) = [(1, 1), (2, 1)] := by
  have hs : sortBest (fun a b : Nat => decide (a ≤ b)) false
      [⟨9, 1, 1⟩, ⟨7, 1, 2⟩, ⟨8, 2, 1⟩, ⟨3, 2, 2⟩] = [⟨9, 1, 1⟩, ⟨8, 2, 1⟩, ⟨7, 1, 2⟩, ⟨3, 2, 2⟩] := by
    simp [sortBest, List.mergeSort, List.MergeSort.Internal.splitInTwo]
  refine ⟨⟨by decide, by decide⟩, ?_⟩
  rw [hs]
  decide

end Panoptica.C03
