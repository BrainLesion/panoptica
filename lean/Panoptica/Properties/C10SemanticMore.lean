/-
  C10 end to end for *semantic* input, beyond the one-to-one threshold matcher: the statement of
  `C10.pipeline_semantic_invariant` for many-to-one threshold matching (`allow_many_to_one=True`) and for the merge matcher.
  Same composition — components transported and renumbered by the coordinate map (Level 2), renumbering absorbed by the
  renaming theorem of the matcher at hand (`C09.pipeline_rename_m2o` / `C09.pipeline_rename_merge`), spatial rearrangement
  absorbed by the counts theorem (`C10.pipeline_counts_invariant` / `C10.pipeline_counts_invariant_merge`).
-/
import Panoptica.Properties.C10Semantic
import Panoptica.Properties.C09PipelineM2O
import Panoptica.Properties.C09Merge
import Panoptica.Properties.C10PipelineMerge
namespace Panoptica.C10
open Panoptica

/-- semantic input, many-to-one threshold matcher on IoU / Dice, count-based instance metrics -/
structure SemanticCountCfgM2O (cfg : Config) (mc : MatcherCfg) : Prop where
  input : cfg.input = .SEMANTIC
  relabel : C09.RelabelCfgM2O { cfg with input := .UNMATCHED } mc
  counts : CountBased { cfg with input := .UNMATCHED }

/-- semantic input, merge matcher on IoU / Dice, count-based instance metrics -/
structure SemanticCountCfgMerge (cfg : Config) (mc : MatcherCfg) : Prop where
  input : cfg.input = .SEMANTIC
  relabel : C09.RelabelCfgMerge { cfg with input := .UNMATCHED } mc
  counts : CountBasedMerge { cfg with input := .UNMATCHED }

theorem pipeline_semantic_invariant_m2o (cfg : Config) (mc : MatcherCfg) (hc : SemanticCountCfgM2O cfg mc)
    (bits bits₂ : Nat) (pred ref pred' ref' : Arr) (f : Coord → Coord) (b : Backend)
    (hb : b = cfg.backend.getD (defaultBackend pred.shape.length))
    (hdim : pred'.shape.length = pred.shape.length)
    (hwp : pred.data.length = shapeSize pred.shape) (hwr : ref.data.length = shapeSize ref.shape)
    (hwp' : pred'.data.length = shapeSize pred'.shape) (hwr' : ref'.data.length = shapeSize ref'.shape)
    (hs : ref.shape = pred.shape) (hs' : ref'.shape = pred'.shape)
    (hP : Transported b f pred pred') (hR : Transported b f ref ref')
    (hinj : ∀ x ∈ pred.fg ++ ref.fg, ∀ y ∈ pred.fg ++ ref.fg, f x.1 = f y.1 → x.1 = y.1)
    (hbnd : (connectedComponents b pred).2 < 2 ^ 32 - 1 ∧ (connectedComponents b ref).2 < 2 ^ 32 - 1)
    (hdet : C03.DeterminedM2O Score.le mc.metric.decreasing mc.thr
      (scoredCands mc.metric (connectedComponents b pred).1 (connectedComponents b ref).1))
    (out out' : PipeOut) (h : pipeline cfg bits pred ref = .ok out)
    (h' : pipeline cfg bits₂ pred' ref' = .ok out') :
    out'.tp = out.tp ∧ out'.nRef = out.nRef ∧ out'.nPred = out.nPred ∧
    ∀ m ∈ cfg.evalMetrics, ∀ vals vals', (m, vals) ∈ out.lists → (m, vals') ∈ out'.lists → vals.Perm vals' := by
  exact SemanticMore.pipeline_semantic_generic cfg mc hc.input
    (C03.DeterminedM2O Score.le mc.metric.decreasing mc.thr)
    (fun bits s s' p r p' r' hl hl' hb hp =>
      pipeline_counts_invariant { cfg with input := .UNMATCHED } hc.counts bits s s' p r p' r' hl hl' hb hp)
    (fun bits bits' s p r σ τ hσ hτ hl hb hb' hp hr hd out out' h h' =>
      C09.pipeline_rename_m2o { cfg with input := .UNMATCHED } mc hc.relabel bits bits' s p r σ τ hσ hτ hl hb hb'
        hp hr hd out out' h h')
    bits bits₂ pred ref pred' ref' f b
    hb.symm (by rw [hdim]; exact hb.symm) hwp hwr hwp' hwr' hs hs'
    (fun x y hx hy => hinj x hx y hy) (fun x y hx hy => hP.adj x hx y hy) (fun x y hx hy => hR.adj x hx y hy)
    hP.perm hR.perm hbnd.1 hbnd.2 hdet out out' h h'

theorem pipeline_semantic_invariant_merge (cfg : Config) (mc : MatcherCfg) (hc : SemanticCountCfgMerge cfg mc)
    (bits bits₂ : Nat) (pred ref pred' ref' : Arr) (f : Coord → Coord) (b : Backend)
    (hb : b = cfg.backend.getD (defaultBackend pred.shape.length))
    (hdim : pred'.shape.length = pred.shape.length)
    (hwp : pred.data.length = shapeSize pred.shape) (hwr : ref.data.length = shapeSize ref.shape)
    (hwp' : pred'.data.length = shapeSize pred'.shape) (hwr' : ref'.data.length = shapeSize ref'.shape)
    (hs : ref.shape = pred.shape) (hs' : ref'.shape = pred'.shape)
    (hP : Transported b f pred pred') (hR : Transported b f ref ref')
    (hinj : ∀ x ∈ pred.fg ++ ref.fg, ∀ y ∈ pred.fg ++ ref.fg, f x.1 = f y.1 → x.1 = y.1)
    (hbnd : (connectedComponents b pred).2 < 2 ^ 32 - 1 ∧ (connectedComponents b ref).2 < 2 ^ 32 - 1)
    (hdist : C09.DistinctScores
      (scoredCands mc.metric (connectedComponents b pred).1 (connectedComponents b ref).1))
    (out out' : PipeOut) (h : pipeline cfg bits pred ref = .ok out)
    (h' : pipeline cfg bits₂ pred' ref' = .ok out') :
    out'.tp = out.tp ∧ out'.nRef = out.nRef ∧ out'.nPred = out.nPred ∧
    ∀ m ∈ cfg.evalMetrics, ∀ vals vals', (m, vals) ∈ out.lists → (m, vals') ∈ out'.lists → vals.Perm vals' := by
  exact SemanticMore.pipeline_semantic_generic cfg mc hc.input C09.DistinctScores
    (fun bits s s' p r p' r' hl hl' hb hp =>
      pipeline_counts_invariant_merge { cfg with input := .UNMATCHED } hc.counts bits s s' p r p' r' hl hl' hb hp)
    (fun bits bits' s p r σ τ hσ hτ hl hb hb' hp hr hd out out' h h' =>
      C09.pipeline_rename_merge { cfg with input := .UNMATCHED } mc hc.relabel bits bits' s p r σ τ hσ hτ hl hb hb'
        hp hr hd out out' h h')
    bits bits₂ pred ref pred' ref' f b
    hb.symm (by rw [hdim]; exact hb.symm) hwp hwr hwp' hwr' hs hs'
    (fun x y hx hy => hinj x hx y hy) (fun x y hx hy => hP.adj x hx y hy) (fun x y hx hy => hR.adj x hx y hy)
    hP.perm hR.perm hbnd.1 hbnd.2 hdist out out' h h'

/-- non-vacuity: covered configurations -/
example : SemanticCountCfgM2O { exSemCfg with matcher := some { kind := .naive true, metric := .IOU, thr := .exact (1/2) } }
    { kind := .naive true, metric := .IOU, thr := .exact (1/2) } := by
  exact ⟨rfl, ⟨rfl, rfl, rfl, Or.inl rfl, ⟨_, rfl⟩⟩,
    ⟨Or.inr rfl, by simp [exSemCfg, countMetric], by simp, by simp [exSemCfg]⟩⟩

example : SemanticCountCfgMerge { exSemCfg with matcher := some { kind := .merge, metric := .IOU, thr := .exact (1/2) } }
    { kind := .merge, metric := .IOU, thr := .exact (1/2) } := by
  exact ⟨rfl, ⟨rfl, rfl, rfl, Or.inl rfl, ⟨_, rfl⟩⟩,
    ⟨Or.inr rfl, by simp [exSemCfg, countMetric], by simp, by simp [exSemCfg]⟩⟩

end Panoptica.C10
