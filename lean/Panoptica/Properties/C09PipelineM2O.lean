/-
  C09 (end to end), many-to-one threshold matching (`allow_many_to_one=True`) — renaming the prediction labels and the
  reference labels by arbitrary injective maps and changing the integer width leaves the instance counts (incl. the number
  of prediction instances *after* predictions assigned to one reference were joined) and tp unchanged and permutes each
  per-instance list, whenever no prediction has two equally good eligible candidates (`C03.DeterminedM2O`): then the
  many-to-one assignment is unique (`C03.unique_m2o`), so both runs assign corresponding predictions to corresponding
  references, and the relabelled arrays are the same up to a renaming of labels.
-/
import Panoptica.Properties.C09Pipeline
import Panoptica.Properties.C03UniqueM2O
namespace Panoptica.C09
open Panoptica

/-- configurations covered: unmatched instance input, many-to-one threshold matcher on IoU / Dice with a rational
    threshold; any instance metrics, any decision setting -/
structure RelabelCfgM2O (cfg : Config) (mc : MatcherCfg) : Prop where
  input : cfg.input = .UNMATCHED
  matcher : cfg.matcher = some mc
  kind : mc.kind = .naive true
  mmetric : mc.metric = .IOU ∨ mc.metric = .DSC
  thrExact : ∃ q, mc.thr = .exact q

/-- end to end -/
theorem pipeline_rename_m2o (cfg : Config) (mc : MatcherCfg) (hc : RelabelCfgM2O cfg mc) (bits bits' : Nat) (s : List Nat)
    (pred ref : Flat) (σ τ : Lab → Lab) (hσ : Renaming σ pred) (hτ : Renaming τ ref)
    (hlen : pred.length = ref.length)
    (hb : ∀ x ∈ pred ++ ref, x < 2 ^ 32 - 1) (hb' : ∀ x ∈ pred.map σ ++ ref.map τ, x < 2 ^ 32 - 1)
    (hp : labelsOf pred ≠ []) (hr : labelsOf ref ≠ [])
    (hdet : C03.DeterminedM2O Score.le mc.metric.decreasing mc.thr (scoredCands mc.metric ⟨s, pred⟩ ⟨s, ref⟩))
    (out out' : PipeOut) (h : pipeline cfg bits ⟨s, pred⟩ ⟨s, ref⟩ = .ok out)
    (h' : pipeline cfg bits' ⟨s, pred.map σ⟩ ⟨s, ref.map τ⟩ = .ok out') :
    out'.tp = out.tp ∧ out'.nRef = out.nRef ∧ out'.nPred = out.nPred ∧
    ∀ m ∈ cfg.evalMetrics, ∀ vals vals', (m, vals) ∈ out.lists → (m, vals') ∈ out'.lists → vals.Perm vals' := by
  exact RelabelE2E.pipeline_rename_of_lmap cfg mc hc.input hc.matcher bits bits' s pred ref σ τ hσ hτ hlen hb hb' hp hr
    (RelabelE2E.runMatcher_rename_m2o mc hc.kind hc.mmetric hc.thrExact s pred ref σ τ hσ hτ hlen hb hb' hdet) out out' h h'

/-- non-vacuity: a covered configuration -/
example : RelabelCfgM2O { C11.exCfg with matcher := some { kind := .naive true, metric := .IOU, thr := .exact (1/4) } }
    { kind := .naive true, metric := .IOU, thr := .exact (1/4) } := by
  exact ⟨rfl, rfl, rfl, .inl rfl, ⟨_, rfl⟩⟩

end Panoptica.C09
