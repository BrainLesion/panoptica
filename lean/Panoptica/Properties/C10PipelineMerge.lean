/-
  C10 (end to end, count-based part) for the *merge* matcher — with `MaximizeMergeMatching` on IoU or Dice and the
  count-based instance metrics, everything the pipeline reports is again a function of the multiset of
  (prediction label, reference label) pairs at foreground positions: the candidate list is the same list (same labels, same
  scores, same discovery order, since discovery sorts pair codes), the combined score of a reference against a *set* of
  predictions is a ratio of voxel counts, so every decision of the merge loop is the same, ties included.
  Hence padding, cropping of shared empty margins, translation, mirroring and axis permutation (applied to both maps)
  leave every reported count, tp/fp/fn, per-instance value and the label map unchanged.
-/
import Panoptica.Properties.C10Pipeline
namespace Panoptica.C10
open Panoptica

/-- configurations: instance input, count-based instance metrics, the merge matcher on IoU / Dice, count-based decision -/
structure CountBasedMerge (cfg : Config) : Prop where
  input : cfg.input = .MATCHED ∨ cfg.input = .UNMATCHED
  metrics : ∀ m ∈ cfg.evalMetrics, countMetric m
  matcher : ∀ mc, cfg.matcher = some mc → mc.kind = .merge ∧ (mc.metric = .IOU ∨ mc.metric = .DSC)
  decision : ∀ d, cfg.decision = some d → (d.1 = .IOU ∨ d.1 = .DSC)

/-- IoU / Dice / RVD of a reference instance against a *set* of prediction instances are determined by the pairs -/
theorem metricOn_fgPairs_list (m : Metric) (hm : countMetric m) (s s' : List Nat) (pred ref pred' ref' : Flat)
    (hlen : pred.length = ref.length) (hlen' : pred'.length = ref'.length)
    (hperm : (fgPairs pred ref).Perm (fgPairs pred' ref')) (r : Lab) (ps : List Lab) (hr : r ≠ 0) (hps : ∀ p ∈ ps, p ≠ 0) :
    metricOn m ⟨s, pred⟩ ⟨s, ref⟩ r ps = metricOn m ⟨s', pred'⟩ ⟨s', ref'⟩ r ps := by
  exact metricOn_fgPairs_list_aux m hm s s' pred ref pred' ref' hlen hlen' hperm r ps hr hps

/-- end to end: same multiset of foreground label pairs ⇒ same report, merge matcher -/
theorem pipeline_counts_invariant_merge (cfg : Config) (hc : CountBasedMerge cfg) (bits : Nat) (s s' : List Nat)
    (pred ref pred' ref' : Flat) (hlen : pred.length = ref.length) (hlen' : pred'.length = ref'.length)
    (hb : ∀ x ∈ pred ++ ref ++ pred' ++ ref', x < 2 ^ 32 - 1)
    (hperm : (fgPairs pred ref).Perm (fgPairs pred' ref')) :
    (pipeline cfg bits ⟨s, pred⟩ ⟨s, ref⟩).map report = (pipeline cfg bits ⟨s', pred'⟩ ⟨s', ref'⟩).map report := by
  rcases hc.input with hin | hin
  · rw [C01.pipeline_matched cfg bits ⟨s, pred⟩ ⟨s, ref⟩ hin,
      C01.pipeline_matched cfg bits ⟨s', pred'⟩ ⟨s', ref'⟩ hin]
    exact evalPhase_fgPairs cfg hc.metrics s s' pred ref pred' ref' hlen hlen' hperm none none none
  · exact pipeline_unmatched_fgPairs cfg hin hc.metrics (fun mc h => (hc.matcher mc h).2) bits s s' pred ref
      pred' ref' hlen hlen' (fun x hx => hb x (by rcases List.mem_append.1 hx with h | h <;> simp [h]))
      (fun x hx => hb x (by rcases List.mem_append.1 hx with h | h <;> simp [h])) hperm

/-- non-vacuity: a covered configuration -/
example : CountBasedMerge { exCfg with matcher := some { kind := .merge, metric := .DSC, thr := .exact (1/2) } } := by
  exact ⟨Or.inr rfl, by simp [exCfg, countMetric], by simp, by simp [exCfg]⟩

end Panoptica.C10
