/-
  C01 (values) — what the evaluator reports for a true positive is the metric of the *matched pair*:
  reference instance `r` against the union of the prediction instances the matcher assigned to `r`,
  computed on the ORIGINAL arrays. This closes the chain  matching (C03/C14) → relabelling (C04) →
  per-instance evaluation (C02): for unmatched instance input, the reported label map is the
  matcher's, the matched references are the reference labels that got a partner, tp is the number of
  those that pass the decision test, and every per-metric list holds, in ascending reference-label
  order, `metricOn m pred ref r (predictions assigned to r)` — the published definition — for every
  metric (IoU, Dice, RVD, ASSD), both matchers, every threshold and decision setting.
-/
import Panoptica.Proofs.Values
import Panoptica.Properties.C01
import Panoptica.Properties.C04
namespace Panoptica.C01
open Panoptica

/-- a label map over this pair of arrays: keys are prediction labels, values reference labels, and a
    prediction has one reference -/
structure GoodMap (lm : LMap) (pred ref : Flat) : Prop where
  keys : ∀ e ∈ lm, e.1 ∈ labelsOf pred
  vals : ∀ e ∈ lm, e.2 ∈ labelsOf ref
  functional : ∀ e ∈ lm, ∀ e' ∈ lm, e.1 = e'.1 → e.2 = e'.2

/-- the relabelled prediction -/
def mapped (lm : LMap) (pred ref : Flat) : Flat :=
  pred.map (C04.relabelFn lm (labelsOf ref) (labelsOf pred))

/-- voxels of the relabelled prediction that carry reference label `r` are exactly the voxels of the
    predictions assigned to `r` -/
theorem selPred_mapped (lm : LMap) (pred ref : Flat) (hg : GoodMap lm pred ref) (r : Lab)
    (hr : r ∈ labelsOf ref) :
    selPred (mapped lm pred ref) [r] = selPred pred (lm.predsOf r) := by
  exact Values.selPred_map_rf ⟨hg.keys, hg.vals, hg.functional⟩ r hr

/-- hence every metric of instance `r` on the relabelled pair is the metric of the matched pair on the
    original arrays -/
theorem metricOn_mapped (m : Metric) (s : List Nat) (lm : LMap) (pred ref : Flat)
    (hg : GoodMap lm pred ref) (r : Lab) (hr : r ∈ labelsOf ref) :
    metricOn m ⟨s, mapped lm pred ref⟩ ⟨s, ref⟩ r [r] = metricOn m ⟨s, pred⟩ ⟨s, ref⟩ r (lm.predsOf r) := by
  exact Values.metricOn_map_rf m s ⟨hg.keys, hg.vals, hg.functional⟩ r hr

/-- the labels present in both maps after relabelling are the reference labels that got a partner,
    in ascending order -/
theorem matchedInstances_mapped (lm : LMap) (pred ref : Flat) (hg : GoodMap lm pred ref) :
    matchedInstances (mapped lm pred ref) ref = (labelsOf ref).filter (fun r => lm.containsRef r) := by
  exact Values.matchedInstances_map_rf ⟨hg.keys, hg.vals, hg.functional⟩

/-- both matchers produce such a map -/
theorem runMatcher_good (mc : MatcherCfg) (pred ref : Arr) (hlen : pred.data.length = ref.data.length)
    (hb : ∀ x ∈ pred.data ++ ref.data, x < 2 ^ 32 - 1)
    (lm : LMap) (h : runMatcher mc pred ref = .ok lm) : GoodMap lm pred.data ref.data := by
  have hg := Values.runMatcher_good mc pred ref hlen hb lm h
  exact ⟨hg.keys, hg.vals, hg.functional⟩

/-- end to end, unmatched instance input -/
theorem pipeline_unmatched_values (cfg : Config) (bits : Nat) (s : List Nat) (pred ref : Flat) (mc : MatcherCfg)
    (hin : cfg.input = .UNMATCHED) (hm : cfg.matcher = some mc)
    (hlen : pred.length = ref.length) (hb : ∀ x ∈ pred ++ ref, x < 2 ^ 32 - 1)
    (hp : labelsOf pred ≠ []) (hr : labelsOf ref ≠ [])
    (out : PipeOut) (h : pipeline cfg bits ⟨s, pred⟩ ⟨s, ref⟩ = .ok out) :
    ∃ lm, runMatcher mc ⟨s, pred⟩ ⟨s, ref⟩ = .ok lm ∧ out.lmap = some lm ∧
      out.matchedPred = some (mapped lm pred ref) ∧
      out.nRef = (labelsOf ref).length ∧
      (let score := fun (m : Metric) (r : Lab) => metricOn m ⟨s, pred⟩ ⟨s, ref⟩ r (lm.predsOf r)
       let matched := (labelsOf ref).filter (fun r => lm.containsRef r)
       let passing := matched.filter (fun r =>
         passesDecision Score.le cfg.decision (cfg.evalMetrics.map (fun m => (m, score m r))))
       out.tp = passing.length ∧
       out.lists = cfg.evalMetrics.map (fun m => (m, passing.map (score m)))) := by
  rw [pipeline_unmatched cfg bits _ _ hin] at h
  exact Values.matchPhase_values cfg bits s pred ref mc _ _ (counts_nonzero hp hr) hm hlen hb hp hr out h

/-- non-vacuity: a 1×4 scene with two references and two predictions; prediction 7 overlaps
    reference 1, prediction 9 overlaps reference 2 -/
example : GoodMap [(7, 1), (9, 2)] [7, 7, 9, 0] [1, 1, 2, 2] := by
  refine ⟨?_, ?_, ?_⟩ <;> decide

end Panoptica.C01
