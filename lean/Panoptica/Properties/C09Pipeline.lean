/-
  C09 (end to end) — for unmatched instance input and one-to-one threshold matching on IoU or Dice, renaming
  the prediction labels and the reference labels by arbitrary injective maps (any values below 2^32 - 1, any
  order) and changing the integer width of the arrays leaves the instance counts and tp unchanged and
  permutes each per-instance list (IoU, Dice, RVD, ASSD alike: the selected voxel sets are the same) —
  whenever the matching is determined by the scores (`C03.Determined`). Candidate discovery and the
  stable best-first sort visit the candidates in an order that depends on the label values, so with ties
  the answer may legitimately change; without ties the valid matching is unique (`C03.unique`).
-/
import Panoptica.Proofs.RelabelE2E
import Panoptica.Properties.C11Pipeline
import Panoptica.Properties.C09
namespace Panoptica.C09
open Panoptica

/-- configurations covered: unmatched instance input, one-to-one threshold matcher on IoU / Dice with a
    rational threshold; any instance metrics, any decision setting -/
structure RelabelCfg (cfg : Config) (mc : MatcherCfg) : Prop where
  input : cfg.input = .UNMATCHED
  matcher : cfg.matcher = some mc
  kind : mc.kind = .naive false
  mmetric : mc.metric = .IOU ∨ mc.metric = .DSC
  thrExact : ∃ q, mc.thr = .exact q

/-- every metric of a pair of instances is unchanged by the renaming (the selected voxel sets are the same) -/
theorem metricOn_rename (m : Metric) (s : List Nat) (pred ref : Flat) (σ τ : Lab → Lab)
    (hσ : Renaming σ pred) (hτ : Renaming τ ref) (r p : Lab) (hr : r ∈ ref) (hp : p ∈ pred) (hr0 : r ≠ 0) (hp0 : p ≠ 0) :
    metricOn m ⟨s, pred.map σ⟩ ⟨s, ref.map τ⟩ (τ r) [σ p] = metricOn m ⟨s, pred⟩ ⟨s, ref⟩ r [p] := by
  have _ := hr0; have _ := hp0
  exact Values.metricOn_congr_sel m s (selRef_relabel τ ref hτ.inj r hr)
    (selPred_relabel σ pred hσ.inj [p] fun q hq => by rw [List.mem_singleton.1 hq]; exact hp)

/-- the candidates of the renamed pair are the renamed candidates (same scores), up to order -/
theorem scoredCands_rename (m : Metric) (s : List Nat) (pred ref : Flat) (σ τ : Lab → Lab)
    (hσ : Renaming σ pred) (hτ : Renaming τ ref) (hlen : pred.length = ref.length)
    (hb : ∀ x ∈ pred ++ ref, x < 2 ^ 32 - 1) (hb' : ∀ x ∈ pred.map σ ++ ref.map τ, x < 2 ^ 32 - 1) :
    (scoredCands m ⟨s, pred.map σ⟩ ⟨s, ref.map τ⟩).Perm ((scoredCands m ⟨s, pred⟩ ⟨s, ref⟩).map (relabelCand σ τ)) := by
  have _ := hlen
  exact RelabelE2E.scoredCands_rename m s pred ref σ τ hσ hτ hb hb'

/-- end to end -/
theorem pipeline_rename (cfg : Config) (mc : MatcherCfg) (hc : RelabelCfg cfg mc) (bits bits' : Nat) (s : List Nat)
    (pred ref : Flat) (σ τ : Lab → Lab) (hσ : Renaming σ pred) (hτ : Renaming τ ref)
    (hlen : pred.length = ref.length)
    (hb : ∀ x ∈ pred ++ ref, x < 2 ^ 32 - 1) (hb' : ∀ x ∈ pred.map σ ++ ref.map τ, x < 2 ^ 32 - 1)
    (hp : labelsOf pred ≠ []) (hr : labelsOf ref ≠ [])
    (hdet : C03.Determined Score.le mc.metric.decreasing mc.thr (scoredCands mc.metric ⟨s, pred⟩ ⟨s, ref⟩))
    (out out' : PipeOut) (h : pipeline cfg bits ⟨s, pred⟩ ⟨s, ref⟩ = .ok out)
    (h' : pipeline cfg bits' ⟨s, pred.map σ⟩ ⟨s, ref.map τ⟩ = .ok out') :
    out'.tp = out.tp ∧ out'.nRef = out.nRef ∧ out'.nPred = out.nPred ∧
    ∀ m ∈ cfg.evalMetrics, ∀ vals vals', (m, vals) ∈ out.lists → (m, vals') ∈ out'.lists → vals.Perm vals' := by
  exact RelabelE2E.pipeline_rename_of_lmap cfg mc hc.input hc.matcher bits bits' s pred ref σ τ hσ hτ hlen hb hb' hp hr
    (RelabelE2E.runMatcher_rename mc hc.kind hc.mmetric hc.thrExact s pred ref σ τ hσ hτ hlen hb hb' hdet) out out' h h'

/-- non-vacuity: swapping the names 1 and 2 and moving 5 to 70000 is a renaming of this array -/
example : Renaming (fun x => if x = 1 then 2 else if x = 2 then 1 else if x = 5 then 70000 else x) [1, 0, 2, 5, 5] := by
  refine ⟨by decide, ?_, ?_⟩ <;> decide

end Panoptica.C09
