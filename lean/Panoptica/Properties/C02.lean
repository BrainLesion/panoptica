/-
  C02 — result bookkeeping: tp/fp/fn, per-TP lists and sq/rq/pq are mutually consistent.
  The evaluator theorems are for every value type, order, metric selection, decision
  metric/threshold and every list of per-instance metric dictionaries — i.e. for the output of
  every matcher; the result theorems are for every directly constructed result.
-/
import Panoptica.Proofs.Result
namespace Panoptica.C02
open Panoptica

/-! ### counts -/

/-- tp + fp = number of predicted instances, tp + fn = number of reference instances -/
theorem fp_fn_def (r : ResultIn) :
    (r.tp : Int) + r.fp = (r.nPred : Int) ∧ (r.tp : Int) + r.fn = (r.nRef : Int) := by
  unfold ResultIn.fp ResultIn.fn
  omega

section evaluator
variable {V : Type} (le : V → V → Bool) (ms : List Metric) (decision : Option (Metric × V))

/-- tp is the number of instances that pass the decision test -/
theorem tp_eq_passing (dicts : List (List (Metric × V))) :
    (evalMatched le ms decision dicts).1 = (dicts.filter (passesDecision le decision)).length := by
  rfl

/-- every per-instance metric list has exactly tp entries -/
theorem lists_len (dicts : List (List (Metric × V)))
    (hfull : ∀ d ∈ dicts, ∀ m ∈ ms, (d.find? (fun e => e.1 == m)).isSome = true) :
    ∀ e ∈ (evalMatched le ms decision dicts).2, e.2.length = (evalMatched le ms decision dicts).1 := by
  intro e he
  simp only [evalMatched, List.mem_map] at he ⊢
  obtain ⟨m, hm, rfl⟩ := he
  apply length_filterMap_of_isSome
  intro d hd
  have hd' := (List.mem_filter.1 hd).1
  have := hfull d hd' m hm
  cases hf : d.find? (fun e => e.1 == m) with
  | none => rw [hf] at this; simp at this
  | some v => rfl

/-- there is one list per evaluated metric, in the order of the metric selection -/
theorem lists_keys (dicts : List (List (Metric × V))) :
    (evalMatched le ms decision dicts).2.map (·.1) = ms := by
  simp only [evalMatched, List.map_map]
  exact List.map_id'' (fun _ => rfl) ms

/-- an instance that fails the decision threshold contributes to no list and not to tp:
    the outcome is that of evaluating only the passing instances -/
theorem decision_excludes (dicts : List (List (Metric × V))) :
    evalMatched le ms decision dicts =
      evalMatched le ms decision (dicts.filter (passesDecision le decision)) := by
  simp only [evalMatched, List.filter_filter, Bool.and_self]

/-- a failing instance is not counted: removing it changes nothing -/
theorem failing_not_counted (pre post : List (List (Metric × V))) (d : List (Metric × V))
    (hfail : passesDecision le decision d = false) :
    evalMatched le ms decision (pre ++ d :: post) = evalMatched le ms decision (pre ++ post) := by
  simp only [evalMatched, List.filter_append, List.filter_cons, hfail, Bool.false_eq_true, if_false]

/-- without a decision metric every matched instance is a true positive -/
theorem no_decision_all_pass (dicts : List (List (Metric × V))) :
    (evalMatched le ms none dicts).1 = dicts.length := by
  simp only [evalMatched]
  rw [List.filter_eq_self.2 (fun d _ => passesDecision_none le d)]

theorem tp_le_matched (dicts : List (List (Metric × V))) :
    (evalMatched le ms decision dicts).1 ≤ dicts.length := by
  exact List.length_filter_le _ _

end evaluator

/-- the matched labels are labels of both maps, so tp ≤ both instance counts and fp, fn ≥ 0 -/
theorem matched_le_counts (pred ref : Flat) :
    (matchedInstances pred ref).length ≤ (labelsOf pred).length ∧
    (matchedInstances pred ref).length ≤ (labelsOf ref).length := by
  refine ⟨List.length_filter_le _ _, ?_⟩
  apply List.Nodup.length_le_of_subset
  · exact (labelsOf_nodup pred).sublist List.filter_sublist
  · intro x hx
    have := (List.mem_filter.1 hx).2
    simpa using this

/-! ### aggregates -/

/-- sq_<m> is the mean of the list (tp > 0, non-empty list) -/
theorem sq_mean (r : ResultIn) (m : Metric) (vals : List Rat) (htp : r.tp ≠ 0)
    (hl : r.lists.find? (fun e => e.1 == m) = some (m, vals)) (hne : vals ≠ []) :
    r.sq m = .ok (some (.num (sumR vals / (vals.length : Rat)))) := by
  have hv : vals.isEmpty = false := by cases vals with
    | nil => exact absurd rfl hne
    | cons _ _ => rfl
  rw [ResultIn.sq, listMetric_nonzero r m vals htp hl]
  simp only [mkListMetric, avgR, hv]
  rfl

/-- sq_<m>_std squared is the population variance of the list -/
theorem sq_var (r : ResultIn) (m : Metric) (vals : List Rat) (htp : r.tp ≠ 0)
    (hl : r.lists.find? (fun e => e.1 == m) = some (m, vals)) (hne : vals ≠ []) :
    r.sqStdSq m = .ok (some (.num
      (sumR (vals.map (fun x => (x - sumR vals / (vals.length : Rat)) * (x - sumR vals / (vals.length : Rat))))
        / (vals.length : Rat)))) := by
  have hv : vals.isEmpty = false := by cases vals with
    | nil => exact absurd rfl hne
    | cons _ _ => rfl
  rw [ResultIn.sqStdSq, listMetric_nonzero r m vals htp hl]
  simp only [mkListMetric, hv]
  rfl

/-- rq = tp / (tp + fp/2 + fn/2) -/
theorem rq_def (r : ResultIn) (htp : r.tp ≠ 0) (h1 : r.tp ≤ r.nPred) (h2 : r.tp ≤ r.nRef) :
    r.rq = .num ((r.tp : Rat) / ((r.tp : Rat) + (r.fp : Rat) / 2 + (r.fn : Rat) / 2)) := by
  exact rq_eq r htp h1 h2

/-- pq_<m> = sq_<m> · rq -/
theorem pq_def (r : ResultIn) (m : Metric) (s q : Rat)
    (hs : r.sq m = .ok (some (.num s))) (hq : r.rq = .num q) :
    r.pq m = .ok (some (.num (s * q))) := by
  simp only [ResultIn.pq, hs, hq]
  rfl

/-! ### ranges (tp > 0) -/

theorem rq_range (r : ResultIn) (htp : r.tp ≠ 0) (h1 : r.tp ≤ r.nPred) (h2 : r.tp ≤ r.nRef) :
    ∃ q, r.rq = .num q ∧ 0 < q ∧ q ≤ 1 := by
  obtain ⟨hpos, hfp, hfn⟩ := counts_cast r htp h1 h2
  have hd : (0 : Rat) < (r.tp : Rat) + (r.fp : Rat) / 2 + (r.fn : Rat) / 2 := by linarith
  refine ⟨_, rq_eq r htp h1 h2, div_pos hpos hd, ?_⟩
  rw [div_le_one hd]; linarith

/-- the mean of values in [0,1] lies in [0,1] -/
theorem mean_unit (vals : List Rat) (hne : vals ≠ []) (h : ∀ x ∈ vals, 0 ≤ x ∧ x ≤ 1) :
    0 ≤ sumR vals / (vals.length : Rat) ∧ sumR vals / (vals.length : Rat) ≤ 1 := by
  have hn := length_cast_pos vals hne
  constructor
  · exact div_nonneg (sumR_nonneg vals (fun x hx => (h x hx).1)) (le_of_lt hn)
  · rw [div_le_one hn]
    exact sumR_le_length vals (fun x hx => (h x hx).2)

/-- pointwise smaller lists have a smaller mean: with `iou_le_dice` (C06) this is sq ≤ sq_dsc -/
theorem mean_mono (xs ys : List Rat) (hne : xs ≠ []) (hlen : xs.length = ys.length)
    (h : ∀ p ∈ xs.zip ys, p.1 ≤ p.2) :
    sumR xs / (xs.length : Rat) ≤ sumR ys / (ys.length : Rat) := by
  have hn := length_cast_pos xs hne
  rw [← hlen]
  exact div_le_div_of_nonneg_right (sumR_le_sumR xs ys hlen h) (le_of_lt hn)

theorem pq_range (s q : Rat) (hs : 0 ≤ s ∧ s ≤ 1) (hq : 0 < q ∧ q ≤ 1) : 0 ≤ s * q ∧ s * q ≤ 1 := by
  constructor
  · exact mul_nonneg hs.1 (le_of_lt hq.1)
  · exact mul_le_one₀ hs.2 (le_of_lt hq.1) hq.2

/-- non-vacuity / regression (repaired defect): two matched instances, one failing the decision
    threshold IoU ≥ 1/2: tp = 1 and each list has one entry -/
example :
    evalMatched (fun (a b : Nat) => decide (a ≤ b)) [Metric.IOU, Metric.DSC] (some (Metric.IOU, 50))
      [[(Metric.IOU, 20), (Metric.DSC, 33)], [(Metric.IOU, 80), (Metric.DSC, 89)]]
      = (1, [(Metric.IOU, [80]), (Metric.DSC, [89])]) := by decide

end Panoptica.C02
