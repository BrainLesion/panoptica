/-
  C10 — results are invariant under padding, translation, flips and axis permutation.
  Three layers: (1) the bounding-box / crop arithmetic of the code (`_get_bbox_nd`, slicing) keeps
  every foreground voxel and only translates coordinates; (2) every count the metrics are built
  from is a function of the multiset of (pred, ref) label pairs at foreground positions, hence
  invariant under any rearrangement of voxels and under adding/removing background-only positions;
  (3) connectivity (`Reach`) and border distances are transported by grid isometries (C07).
-/
import Panoptica.Proofs.Crop
import Panoptica.Spec.Transforms
import Panoptica.Model.Overlap
namespace Panoptica.C10
open Panoptica Panoptica.Spec

/-! ### (1) bounding box and crop -/

/-- a coordinate lies inside an array of the given shape -/
def inShape (shape : List Nat) (c : Coord) : Prop :=
  c.length = shape.length ∧ ∀ i (h : i < shape.length), 0 ≤ c.getD i 0 ∧ c.getD i 0 < (shape.getD i 0 : Int)

/-- the padded, clipped bounding box contains every voxel it was computed from, for every padding -/
theorem bbox_contains (shape : List Nat) (sup : List Coord) (pad : Nat)
    (hs : ∀ c ∈ sup, inShape shape c) :
    ∀ c ∈ sup, inBox ((bboxNd shape sup pad).clip shape) c = true := by
  intro c hc
  obtain ⟨hcl, hcb⟩ := hs c hc
  rw [inBox, List.all_eq_true]
  intro x hx
  rw [List.mem_iff_getElem] at hx
  obtain ⟨i, hi, rfl⟩ := hx
  rw [List.length_zip, clip_bbox_length] at hi
  have hi1 : i < shape.length := by omega
  have hi2 : i < c.length := by omega
  rw [List.getElem_zip, clip_bbox_getElem shape sup pad i _ hi1]
  have hb := hcb i hi1
  have hmem : (c.getD i 0).toNat ∈ axisVals sup i := List.mem_map.2 ⟨c, hc, rfl⟩
  have h1 := minOf_le_mem _ _ hmem
  have h2 := le_maxOf _ _ hmem
  simp only [List.getD_eq_getElem?_getD, List.getElem?_eq_getElem hi1,
    List.getElem?_eq_getElem hi2, Option.getD_some] at hb h1 h2
  simp only [Bool.and_eq_true, decide_eq_true_eq]
  omega

/-- the clipped box lies inside the array -/
theorem bbox_in_array (shape : List Nat) (sup : List Coord) (pad : Nat) :
    ∀ p ∈ ((bboxNd shape sup pad).clip shape).zip shape, p.1.2 ≤ p.2 := by
  intro p hp
  rw [List.mem_iff_getElem] at hp
  obtain ⟨i, hi, rfl⟩ := hp
  rw [List.length_zip, clip_bbox_length] at hi
  have hi1 : i < shape.length := by omega
  rw [List.getElem_zip, clip_bbox_getElem shape sup pad i _ hi1]
  simp only
  omega

/-- the coordinates of a box inside an array, in raster order, are the raster coordinates of the
    box's own shape translated by the box origin -/
theorem allCoords_box (shape : List Nat) (b : Box) (hlen : b.length = shape.length)
    (hin : ∀ p ∈ b.zip shape, p.1.1 ≤ p.1.2 ∧ p.1.2 ≤ p.2) :
    (allCoords shape).filter (inBox b) =
      (allCoords (b.map (fun p => p.2 - p.1))).map (translate (b.map (fun p => (p.1 : Int)))) := by
  exact allCoords_box_aux shape b hlen hin

/-- crop lemma: cropping an array to a box that contains all of its foreground keeps exactly the
    foreground voxels, with coordinates translated by the box origin -/
theorem crop_fg (a : Arr) (b : Box) (hdata : a.data.length = shapeSize a.shape)
    (hlen : b.length = a.shape.length)
    (hin : ∀ p ∈ b.zip a.shape, p.1.1 ≤ p.1.2 ∧ p.1.2 ≤ p.2)
    (hfg : ∀ v ∈ a.fg, inBox b v.1 = true) :
    (a.crop b).fg.map (fun v => (translate (b.map (fun p => (p.1 : Int))) v.1, v.2)) = a.fg := by
  exact crop_fg_aux a b hdata hlen hin hfg

/-! ### (2) counts depend only on the multiset of foreground label pairs -/

/-- the label pairs at positions where at least one map is foreground -/
def fgPairs (pred ref : Flat) : List (Lab × Lab) := (pred.zip ref).filter (fun z => z.1 != 0 || z.2 != 0)

/-- a count over the pairs that ignores background pairs is a count over the foreground pairs -/
theorem countP_fgPairs (pred ref : Flat) (q : Lab × Lab → Bool) (hq : q (0, 0) = false) :
    (pred.zip ref).countP q = (fgPairs pred ref).countP q := by
  rw [fgPairs, List.countP_filter]
  refine List.countP_congr fun z _ => ?_
  rcases z with ⟨_ | a, _ | b⟩ <;> simp [hq]

/-- intersection size of instance `p` of the prediction with instance `r` of the reference is a
    count over the foreground pairs -/
theorem ovCount_fgPairs (pred ref : Flat) (r p : Lab) (h : r ≠ 0 ∨ p ≠ 0) :
    ovCount pred ref r p = ((fgPairs pred ref).filter (fun z => z.1 == p && z.2 == r)).length := by
  rw [ovCount_eq_countP, countP_fgPairs _ _ _ (by rcases h with h | h <;> simp [Ne.symm h]),
    List.countP_eq_length_filter]

/-- instance sizes are counts over the foreground pairs -/
theorem cnt_fgPairs (pred ref : Flat) (hlen : pred.length = ref.length) (l : Lab) (hl : l ≠ 0) :
    cnt pred l = ((fgPairs pred ref).filter (fun z => z.1 == l)).length ∧
    cnt ref l = ((fgPairs pred ref).filter (fun z => z.2 == l)).length := by
  have h0 : ((0 : Lab) == l) = false := by simpa using Ne.symm hl
  rw [cnt_eq_countP, cnt_eq_countP, ← countP_fst_zip _ pred ref (by omega),
    ← countP_snd_zip _ pred ref (by omega), countP_fgPairs _ _ _ h0,
    countP_fgPairs _ _ (fun z => z.2 == l) h0, List.countP_eq_length_filter, List.countP_eq_length_filter]
  exact ⟨rfl, rfl⟩

/-- two pairs of maps whose foreground label pairs are a rearrangement of each other (flips, axis
    permutations, translations, padding, cropping of shared empty margins all produce such pairs)
    have the same instance sizes and the same intersection sizes, hence the same IoU, Dice and RVD
    for every pair of instances and the same candidate pairs -/
theorem counts_invariant (pred ref pred' ref' : Flat)
    (hlen : pred.length = ref.length) (hlen' : pred'.length = ref'.length)
    (hperm : (fgPairs pred ref).Perm (fgPairs pred' ref')) (r p : Lab) (h : r ≠ 0 ∨ p ≠ 0) :
    ovCount pred ref r p = ovCount pred' ref' r p ∧
    (p ≠ 0 → cnt pred p = cnt pred' p) ∧ (r ≠ 0 → cnt ref r = cnt ref' r) := by
  refine ⟨?_, ?_, ?_⟩
  · rw [ovCount_fgPairs pred ref r p h, ovCount_fgPairs pred' ref' r p h]
    exact (hperm.filter _).length_eq
  · intro hp
    rw [(cnt_fgPairs pred ref hlen p hp).1, (cnt_fgPairs pred' ref' hlen' p hp).1]
    exact (hperm.filter _).length_eq
  · intro hr
    rw [(cnt_fgPairs pred ref hlen r hr).2, (cnt_fgPairs pred' ref' hlen' r hr).2]
    exact (hperm.filter _).length_eq

/-- IoU / Dice / RVD of a selected pair of instances are functions of these counts -/
theorem iouSel_counts (pred ref : Flat) (hlen : pred.length = ref.length) (r p : Lab) (hr : r ≠ 0) (hp : p ≠ 0) :
    iouSel ref pred r [p] =
      (if cnt ref r + cnt pred p - ovCount pred ref r p = 0 then 0
       else (ovCount pred ref r p : Rat) / ((cnt ref r + cnt pred p - ovCount pred ref r p : Nat) : Rat)) := by
  have hl : (selRef ref r).length = (selPred pred [p]).length := by
    simp [selRef, selPred, hlen]
  have hie := card_incl_excl _ _ hl
  rw [card_selRef, card_selPred_single, cardInter_sel] at hie
  have hu : cardUnion (selRef ref r) (selPred pred [p]) =
      cnt ref r + cnt pred p - ovCount pred ref r p := by omega
  simp only [iouSel, selectPair, iou, interCount_maskVals, unionCount_maskVals, cardInter_sel, hu,
    beq_iff_eq]

/-! ### (3) connectivity is transported by adjacency-preserving injective maps -/

theorem reach_map {α β : Type} (adj : α → α → Bool) (adj' : β → β → Bool) (f : α → β) (V : List α)
    (hadj : ∀ a b, a ∈ V → b ∈ V → adj' (f a) (f b) = adj a b) (a b : α) (h : Reach adj V a b) :
    Reach adj' (V.map f) (f a) (f b) := by
  induction h with
  | refl ha => exact Reach.refl _ (List.mem_map_of_mem ha)
  | step hab hc hbc ih =>
    refine Reach.step ih (List.mem_map_of_mem hc) ?_
    rw [hadj _ _ (Reach.mem_right hab) hc]; exact hbc

theorem reach_map_iff {α β : Type} (adj : α → α → Bool) (adj' : β → β → Bool) (f : α → β) (V : List α)
    (hinj : ∀ a b, a ∈ V → b ∈ V → f a = f b → a = b)
    (hadj : ∀ a b, a ∈ V → b ∈ V → adj' (f a) (f b) = adj a b) (a b : α) (ha : a ∈ V) (hb : b ∈ V) :
    Reach adj' (V.map f) (f a) (f b) ↔ Reach adj V a b := by
  constructor
  · intro h
    have key : ∀ x y, Reach adj' (V.map f) x y → ∀ a ∈ V, f a = x → ∀ b ∈ V, f b = y →
        Reach adj V a b := by
      intro x y hxy
      induction hxy with
      | refl _ =>
        intro a ha hax b hb hbx
        have := hinj a b ha hb (hax.trans hbx.symm)
        subst this
        exact Reach.refl _ ha
      | @step y' c hxy' hc hyc ih =>
        intro a ha hax b hb hbc
        obtain ⟨b', hb', hfb'⟩ := List.mem_map.1 (Reach.mem_right hxy')
        have h1 := ih a ha hax b' hb' hfb'
        refine Reach.step h1 hb ?_
        rw [← hadj b' b hb' hb, hfb', hbc]; exact hyc
    exact key _ _ h a ha rfl b hb rfl
  · exact reach_map adj adj' f V hadj a b

/-- grid isometries preserve face adjacency (face adjacency is membership in `faceNeighbours`) -/
theorem isometry_faceAdj (n : Nat) (f : Coord → Coord) (hf : GridIsometry f n) (a b : Coord)
    (ha : a.length = n) (hb : b.length = n) : faceAdj (f a) (f b) = faceAdj a b := by
  rw [Bool.eq_iff_iff, ← mem_faceNeighbours_iff, ← mem_faceNeighbours_iff, hf.nbr a _ ha]
  constructor
  · rintro ⟨y, hy, e⟩
    rwa [← hf.inj y b ((length_of_mem_faceNeighbours a y hy).trans ha) hb e]
  · exact fun h => ⟨b, h, rfl⟩

/-- full (8/26) adjacency is not determined by distances, but like them it depends only on the
    multiset of axis-wise differences, which translations, flips and axis swaps permute -/
theorem translate_fullAdj (t a b : Coord) (ha : a.length = t.length) (hb : b.length = t.length) :
    fullAdj (translate t a) (translate t b) = fullAdj a b := by
  exact fullAdj_eq_of_perm (absDiffs_translate t a b ha hb ▸ .refl _) (by simp [translate, ha, hb])

theorem flipAxis_fullAdj (k : Nat) (m : Int) (a b : Coord) (h : a.length = b.length) :
    fullAdj (flipAxis k m a) (flipAxis k m b) = fullAdj a b := by
  have _ := h
  exact fullAdj_eq_of_perm (absDiffs_flipAxis k m a b ▸ .refl _) (by simp [flipAxis])

theorem swapAxes_fullAdj (i j : Nat) (a b : Coord) (h : a.length = b.length) (hi : i < a.length) (hj : j < a.length) :
    fullAdj (swapAxes i j a) (swapAxes i j b) = fullAdj a b := by
  exact fullAdj_eq_of_perm (absDiffs_swapAxes i j a b hi hj h) (by simp [swapAxes])

/-- non-vacuity: bounding box of two voxels in a 5x6 array with the code's padding 2 -/
example : (bboxNd [5, 6] [[1, 2], [3, 2]] 2).clip [5, 6] = [(0, 5), (0, 5)] := by decide

end Panoptica.C10
