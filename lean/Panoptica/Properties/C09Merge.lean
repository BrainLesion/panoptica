/-
  C09, end to end, for the *merge* matcher — renaming the instance labels of prediction and reference by injective
  maps (and changing the integer width) leaves the reported counts, tp and every per-instance list unchanged
  (lists up to order), for unmatched instance input with `MaximizeMergeMatching` on IoU / Dice, whenever no two
  candidate pairs have the same score (then the best-first processing order is the same before and after the
  renaming; ties are where the property itself only demands validity).  Companion of `C09.pipeline_rename`
  (one-to-one threshold matcher).
-/
import Panoptica.Properties.C09Pipeline
import Panoptica.Proofs.RelabelMerge
namespace Panoptica.C09
open Panoptica

/-- configurations covered: unmatched instance input, merge matcher on IoU / Dice with a rational threshold; any
    instance metrics, any decision setting -/
structure RelabelCfgMerge (cfg : Config) (mc : MatcherCfg) : Prop where
  input : cfg.input = .UNMATCHED
  matcher : cfg.matcher = some mc
  kind : mc.kind = .merge
  mmetric : mc.metric = .IOU ∨ mc.metric = .DSC
  thrExact : ∃ q, mc.thr = .exact q

/-- no two candidate pairs score the same -/
def DistinctScores (cs : List (Cand Score)) : Prop := cs.Pairwise (fun a b => a.score ≠ b.score)

/-- the label map of the renamed pair is the renamed label map, entry by entry and in the same order -/
theorem runMatcher_rename_merge (mc : MatcherCfg) (hk : mc.kind = .merge)
    (hm : mc.metric = .IOU ∨ mc.metric = .DSC) (ht : ∃ q, mc.thr = .exact q)
    (s : List Nat) (pred ref : Flat) (σ τ : Lab → Lab) (hσ : Renaming σ pred) (hτ : Renaming τ ref)
    (hlen : pred.length = ref.length)
    (hb : ∀ x ∈ pred ++ ref, x < 2 ^ 32 - 1) (hb' : ∀ x ∈ pred.map σ ++ ref.map τ, x < 2 ^ 32 - 1)
    (hdist : DistinctScores (scoredCands mc.metric ⟨s, pred⟩ ⟨s, ref⟩))
    (lm lm' : LMap) (h : runMatcher mc ⟨s, pred⟩ ⟨s, ref⟩ = .ok lm)
    (h' : runMatcher mc ⟨s, pred.map σ⟩ ⟨s, ref.map τ⟩ = .ok lm') :
    lm' = lm.map (fun e => (σ e.1, τ e.2)) := by
  have _ := ht
  exact RelabelMerge.runMatcher_rename_merge mc hk hm s pred ref σ τ hσ hτ hlen hb hb' hdist lm lm' h h'

/-- end to end -/
theorem pipeline_rename_merge (cfg : Config) (mc : MatcherCfg) (hc : RelabelCfgMerge cfg mc) (bits bits' : Nat) (s : List Nat)
    (pred ref : Flat) (σ τ : Lab → Lab) (hσ : Renaming σ pred) (hτ : Renaming τ ref)
    (hlen : pred.length = ref.length)
    (hb : ∀ x ∈ pred ++ ref, x < 2 ^ 32 - 1) (hb' : ∀ x ∈ pred.map σ ++ ref.map τ, x < 2 ^ 32 - 1)
    (hp : labelsOf pred ≠ []) (hr : labelsOf ref ≠ [])
    (hdist : DistinctScores (scoredCands mc.metric ⟨s, pred⟩ ⟨s, ref⟩))
    (out out' : PipeOut) (h : pipeline cfg bits ⟨s, pred⟩ ⟨s, ref⟩ = .ok out)
    (h' : pipeline cfg bits' ⟨s, pred.map σ⟩ ⟨s, ref.map τ⟩ = .ok out') :
    out'.tp = out.tp ∧ out'.nRef = out.nRef ∧ out'.nPred = out.nPred ∧
    ∀ m ∈ cfg.evalMetrics, ∀ vals vals', (m, vals) ∈ out.lists → (m, vals') ∈ out'.lists → vals.Perm vals' := by
  exact RelabelE2E.pipeline_rename_of_lmap cfg mc hc.input hc.matcher bits bits' s pred ref σ τ hσ hτ hlen hb hb' hp hr
    (fun lm lm' hl hl' e => by
      rw [RelabelMerge.runMatcher_rename_merge mc hc.kind hc.mmetric s pred ref σ τ hσ hτ hlen hb hb' hdist lm lm' hl hl'])
    out out' h h'

/-- non-vacuity: three candidates with three different scores -/
example : DistinctScores [⟨.exact (1/2), 1, 1⟩, ⟨.exact (1/3), 1, 2⟩, ⟨.exact (3/4), 2, 3⟩] := by
  unfold DistinctScores
  simp only [List.pairwise_cons, List.mem_cons, List.not_mem_nil, or_false, forall_eq_or_imp, forall_eq,
    ne_eq, Score.exact.injEq, List.Pairwise.nil, and_true, false_imp_iff, implies_true]
  norm_num

end Panoptica.C09
