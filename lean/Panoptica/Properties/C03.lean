/-
  C03 — instance matching is a sound, conflict-free, maximal best-first assignment.
  Property theorems only (helper lemmas live in Panoptica/Proofs/Matching.lean).
  Every theorem is for an arbitrary score type `S` with an arbitrary total preorder `le`,
  every threshold, both directions, both values of `allow_many_to_one`, every candidate list.
-/
import Panoptica.Proofs.Matching
import Panoptica.Proofs.Order
namespace Panoptica.C03
open Panoptica

variable {S : Type} (le : S → S → Bool) (dec : Bool) (thr : S) (m2o : Bool)

/-- "at least as good" in the metric's preferred direction (the sort order of the candidates) -/
def betterEq (a b : Cand S) : Bool := if dec then le a.score b.score else le b.score a.score

/-- termination with a result: the loop as coded (with `add_labelmap_entry`, which can raise)
    never raises, for both values of `allow_many_to_one`. -/
theorem naive_total (cs : List (Cand S)) :
    naiveMatch le dec thr m2o cs = .ok (naiveLoop le dec thr m2o (sortBest le dec cs)) := by
  unfold naiveMatch naiveLoopE naiveLoop
  exact naiveFoldE_eq le dec thr m2o _ []

/-- each prediction is assigned to at most one reference -/
theorem functional (cs : List (Cand S)) :
    ((naiveLoop le dec thr m2o cs).map (·.1)).Nodup :=
  (naiveLoop_inv' le dec thr m2o cs).functional

/-- without many-to-one each reference is assigned at most one prediction -/
theorem injective (cs : List (Cand S)) :
    ((naiveLoop le dec thr false cs).map (·.2)).Nodup :=
  (naiveLoop_inv' le dec thr false cs).injective rfl

/-- every assigned pair is a candidate (so it overlaps) whose score meets the threshold -/
theorem sound (cs : List (Cand S)) :
    ∀ e ∈ naiveLoop le dec thr m2o cs,
      ∃ c ∈ cs, c.pred = e.1 ∧ c.ref = e.2 ∧ beats le dec c.score thr = true :=
  (naiveLoop_inv' le dec thr m2o cs).sound

/-- a score exactly at the threshold meets it (any reflexive `le`) -/
theorem exact_threshold_matches (hrefl : ∀ a, le a a = true) : beats le dec thr thr = true := by
  unfold beats
  split <;> exact hrefl thr

/-- no pair that meets the threshold is left with both partners unassigned
    (many-to-one: with its prediction unassigned) -/
theorem maximal (cs : List (Cand S)) :
    ∀ c ∈ cs, beats le dec c.score thr = true →
      (naiveLoop le dec thr m2o cs).containsPred c.pred = true ∨
      (m2o = false ∧ (naiveLoop le dec thr m2o cs).containsRef c.ref = true) := by
  intro c hc hb
  rw [LMap.containsPred_iff, LMap.containsRef_iff]
  by_cases hin : (c.pred, c.ref) ∈ naiveLoop le dec thr m2o cs
  · exact .inl ⟨_, hin⟩
  · obtain ⟨c', _, hin', hconf, _, _⟩ := (naiveLoop_inv' le dec thr m2o cs).best c hc hb hin
    rcases hconf with h | ⟨h0, h⟩
    · exact .inl ⟨_, h ▸ hin'⟩
    · exact .inr ⟨h0, _, h ▸ hin'⟩

/-- a better-scoring pair is never displaced by a worse-scoring one: every eligible candidate that
    is not in the result conflicts with a result pair that came from a candidate at least as good -/
theorem best_first (cs : List (Cand S)) (hsorted : cs.Pairwise (fun a b => betterEq le dec a b = true)) :
    ∀ c ∈ cs, beats le dec c.score thr = true → (c.pred, c.ref) ∉ naiveLoop le dec thr m2o cs →
      ∃ c' ∈ cs, (c'.pred, c'.ref) ∈ naiveLoop le dec thr m2o cs ∧
        (c'.pred = c.pred ∨ (m2o = false ∧ c'.ref = c.ref)) ∧ betterEq le dec c' c = true := by
  intro c hc hb hnot
  obtain ⟨c', hc', h1, h2, h3, _⟩ := (naiveLoop_inv le dec thr m2o hsorted).best c hc hb hnot
  exact ⟨c', hc', h1, h2, h3⟩

/-- the candidate list handed to the loop is sorted best-first and is a permutation of the input -/
theorem sortBest_sorted (htot : ∀ a b, le a b = true ∨ le b a = true)
    (htrans : ∀ a b c, le a b = true → le b c = true → le a c = true) (cs : List (Cand S)) :
    (sortBest le dec cs).Pairwise (fun a b => betterEq le dec a b = true) ∧ (sortBest le dec cs).Perm cs := by
  exact ⟨sortBest_pairwise le dec htrans htot cs, List.mergeSort_perm _ _⟩

/-- making the threshold stricter can only remove matches: the result for the stricter threshold
    is a prefix (hence a subset) of the result for the laxer one -/
theorem monotone (thr' : S) (htrans : ∀ a b c, le a b = true → le b c = true → le a c = true)
    (hstrict : ∀ s, beats le dec s thr' = true → beats le dec s thr = true)
    (cs : List (Cand S)) (hsorted : cs.Pairwise (fun a b => betterEq le dec a b = true)) :
    naiveLoop le dec thr' m2o cs <+: naiveLoop le dec thr m2o cs := by
  unfold naiveLoop
  generalize ([] : LMap) = m
  induction cs generalizing m with
  | nil => exact List.prefix_refl _
  | cons c cs ih =>
    rw [List.pairwise_cons] at hsorted
    cases hb : beats le dec c.score thr' with
    | true =>
      have hb' := hstrict _ hb
      have heq : naiveStep le dec thr' m2o m c = naiveStep le dec thr m2o m c := by
        unfold naiveStep; rw [hb, hb']
      rw [List.foldl_cons, List.foldl_cons, heq]
      exact ih hsorted.2 _
    | false =>
      have hnone : ∀ c' ∈ c :: cs, beats le dec c'.score thr' = false := by
        intro c' hc'
        rcases List.mem_cons.1 hc' with h | h
        · rw [h]; exact hb
        · have hle := hsorted.1 c' h
          cases hb2 : beats le dec c'.score thr' with
          | false => rfl
          | true =>
            exfalso
            have : beats le dec c.score thr' = true := by
              unfold beats betterEq at *
              cases dec
              · exact htrans _ _ _ hb2 hle
              · exact htrans _ _ _ hle hb2
            rw [hb] at this; cases this
      rw [naiveFold_none le dec thr' m2o (c :: cs) m hnone]
      exact naiveFold_prefix le dec thr m2o _ m

/-- non-vacuity: a concrete competition (two predictions for one reference, one prediction spanning
    two references, an exact-threshold score) -/
example :
    naiveLoop (fun (a b : Nat) => decide (a ≤ b)) false 50 false
      [⟨90, 2, 2⟩, ⟨60, 3, 3⟩, ⟨50, 1, 2⟩, ⟨40, 1, 1⟩] = [(2, 2), (3, 3)] := by decide

end Panoptica.C03
