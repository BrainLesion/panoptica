/-
  C14, the "hence" clause at full strength — the final score of every matched reference is at least as
  good as that of its *best single candidate*: best-first processing makes the founder of a reference
  the best of all its candidates that were still free, so the only candidates of a matched reference
  that may score better than its final score are predictions that went to a *different* reference.
  (This is the oracle the C14 check applies to the implementation's label map.)
  For an arbitrary score type with a total preorder `le`, both directions, every threshold, every
  candidate list (duplicates and inconsistent scores included) and every combined-score function.
-/
import Panoptica.Proofs.MergeBest
import Panoptica.Properties.C14
namespace Panoptica.C14
open Panoptica

variable {S : Type} (le : S → S → Bool) (dec : Bool) (thr : S) (comb : Lab → List Lab → S)

/-- the final score of a matched reference is at least as good as the own score of every one of its
    candidates whose prediction was not assigned to another reference -/
theorem final_at_least_best_free
    (hrefl : ∀ a, le a a = true)
    (htrans : ∀ a b c, le a b = true → le b c = true → le a c = true)
    (htotal : ∀ a b, le a b = true ∨ le b a = true)
    (cs : List (Cand S)) (r : Lab) (s : S)
    (h : (mergeMatch le dec thr comb cs).scores.get? r = some s) :
    ∀ c ∈ cs, c.ref = r →
      (∃ r', r' ≠ r ∧ (c.pred, r') ∈ (mergeMatch le dec thr comb cs).lmap) ∨
      betterEqS le dec s c.score = true := by
  intro c hc hcr
  exact mergeLoop_bestFree le dec thr comb hrefl htrans (sortBest_pairwise le dec htrans htotal cs) r s h c
    ((mem_sortBest le dec cs c).2 hc) hcr

/-- a reference stays unmatched only if every one of its candidates that meets the threshold on its own
    went to another reference (in whatever order the candidates are processed) -/
theorem unmatched_has_no_free_eligible
    (cs : List (Cand S)) (r : Lab)
    (h : (mergeLoop le dec thr comb cs).lmap.containsRef r = false) :
    ∀ c ∈ cs, c.ref = r → beats le dec c.score thr = true →
      ∃ r', r' ≠ r ∧ (c.pred, r') ∈ (mergeLoop le dec thr comb cs).lmap := by
  rintro c hc rfl hb
  exact (mergeLoop_inv' le dec thr comb cs).unmatched c hc hb h

/-- non-vacuity: reference 1 has candidates 16 (score 60) and 3 (score 35), reference 2 takes
    prediction 16 first (score 90; the list is in best-first order); reference 1 ends with prediction 3 alone, and the only candidate
    scoring better than its final score went to reference 2 -/
example :
    (mergeLoop (fun (a b : Nat) => decide (a ≤ b)) false 30 (fun _ _ => 0)
      [⟨90, 2, 16⟩, ⟨60, 1, 16⟩, ⟨35, 1, 3⟩]).lmap = [(16, 2), (3, 1)] := by decide

end Panoptica.C14
