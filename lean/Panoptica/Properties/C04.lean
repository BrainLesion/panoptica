/-
  C04 — relabelling after matching preserves both segmentations.
  The relabelled prediction is `pred.map f` for a finite map `f` (theorem `relabel_pointwise`:
  the look-up table never wraps, whatever the arrays' dtype width `bits`, as long as labels and
  the number of instances stay below 2^64), and `f` keeps the foreground, sends a matched
  prediction to its reference's label, gives unmatched predictions pairwise distinct labels
  outside the reference labels, and identifies two predictions only if they are matched to the
  same reference. The reference array is not an input of the relabelling at all.
-/
import Panoptica.Proofs.Relabel
namespace Panoptica.C04
open Panoptica

/-- the label renaming applied to the prediction -/
def relabelFn (lm : LMap) (refLabels predLabels : List Lab) : Lab → Lab :=
  applyMap (fullLabelMap lm refLabels predLabels)

/-- everything fits into 64 bits (the only guard left after the fix; numpy has no wider integer) -/
structure Bounded (pred : Flat) (lm : LMap) (refLabels predLabels : List Lab) : Prop where
  arr : ∀ x ∈ pred, x < 2 ^ 64
  lm : ∀ e ∈ lm, e.1 < 2 ^ 64 ∧ e.2 < 2 ^ 64
  labels : ∀ p ∈ predLabels, p < 2 ^ 64
  fresh : maxOf refLabels + predLabels.length + 1 < 2 ^ 64

/-- the look-up table never wraps: for every dtype width the output is the pointwise image -/
theorem relabel_pointwise (bits : Nat) (pred : Flat) (lm : LMap) (refLabels predLabels : List Lab)
    (hb : Bounded pred lm refLabels predLabels) :
    mapInstanceLabels bits pred refLabels predLabels lm = pred.map (relabelFn lm refLabels predLabels) := by
  unfold mapInstanceLabels relabelFn
  apply mapLabels_exact _ _ _ hb.arr
  intro e he
  rcases mem_fullLabelMap lm refLabels predLabels e he with h | ⟨h1, h2, h3⟩
  · exact hb.lm e h
  · have := hb.fresh
    have := hb.labels e.1 h1
    constructor <;> grind

/-- background stays background -/
theorem background_kept (lm : LMap) (refLabels predLabels : List Lab)
    (hlm0 : ∀ e ∈ lm, e.1 ≠ 0) (hp0 : ∀ p ∈ predLabels, p ≠ 0) :
    relabelFn lm refLabels predLabels 0 = 0 := by
  unfold relabelFn
  apply applyMap_of_not_key
  rw [LMap.containsPred_eq_false]
  intro r he
  rcases mem_fullLabelMap lm refLabels predLabels _ he with h | ⟨h1, _, _⟩
  · exact hlm0 _ h rfl
  · exact hp0 _ h1 rfl

/-- foreground stays foreground: no prediction voxel disappears -/
theorem foreground_kept (lm : LMap) (refLabels predLabels : List Lab)
    (hlm0 : ∀ e ∈ lm, e.2 ≠ 0) (p : Lab) (hp : p ∈ predLabels) :
    relabelFn lm refLabels predLabels p ≠ 0 := by
  unfold relabelFn
  have hkey : LMap.containsPred (fullLabelMap lm refLabels predLabels) p = true := by
    rw [LMap.containsPred_iff]
    cases hc : lm.containsPred p with
    | true =>
      obtain ⟨r, hr⟩ := LMap.containsPred_iff.1 hc
      exact ⟨r, List.mem_append_left _ hr⟩
    | false =>
      obtain ⟨r, hr⟩ := LMap.containsPred_iff.1
        (containsPred_assignFresh _ (maxOf refLabels + 1) p (mem_missed lm predLabels p hp hc))
      exact ⟨r, List.mem_append_right _ hr⟩
  rcases mem_fullLabelMap lm refLabels predLabels _ (applyMap_mem hkey) with h | ⟨_, h2, _⟩
  · exact hlm0 _ h
  · exact Nat.ne_of_gt (Nat.lt_of_lt_of_le (Nat.succ_pos _) h2)

/-- a matched prediction carries exactly the label of its reference -/
theorem matched_label (lm : LMap) (refLabels predLabels : List Lab) (p r : Lab)
    (h : lm.lookup p = some r) : relabelFn lm refLabels predLabels p = r := by
  exact applyMap_full_matched lm refLabels predLabels p r h

/-- an unmatched prediction receives a label beyond every reference label (so: distinct from every
    reference label) -/
theorem fresh_outside_ref (lm : LMap) (refLabels predLabels : List Lab) (p : Lab)
    (hp : p ∈ predLabels) (hun : lm.containsPred p = false) :
    maxOf refLabels < relabelFn lm refLabels predLabels p ∧
    relabelFn lm refLabels predLabels p ∉ refLabels := by
  unfold relabelFn
  rw [applyMap_full_unmatched lm refLabels predLabels p hun]
  have hb := (applyMap_assignFresh_bounds _ (maxOf refLabels + 1) p (mem_missed lm predLabels p hp hun)).1
  have hlt : maxOf refLabels < applyMap (assignFresh (predLabels.filter (fun p => !lm.containsPred p))
      (maxOf refLabels + 1)) p := by grind
  refine ⟨hlt, ?_⟩
  intro hmem
  have := le_maxOf refLabels _ hmem
  grind

/-- two different unmatched predictions receive different labels -/
theorem fresh_distinct (lm : LMap) (refLabels predLabels : List Lab) (hnd : predLabels.Nodup)
    (p q : Lab) (hp : p ∈ predLabels) (hq : q ∈ predLabels) (hpq : p ≠ q)
    (hup : lm.containsPred p = false) (huq : lm.containsPred q = false) :
    relabelFn lm refLabels predLabels p ≠ relabelFn lm refLabels predLabels q := by
  unfold relabelFn
  rw [applyMap_full_unmatched lm refLabels predLabels p hup,
    applyMap_full_unmatched lm refLabels predLabels q huq]
  exact applyMap_assignFresh_inj _ _ (hnd.filter _) p q
    (mem_missed lm predLabels p hp hup) (mem_missed lm predLabels q hq huq) hpq

/-- the partition into instances is preserved: two predictions end up with the same label exactly
    when they are the same prediction or are both assigned to the same reference -/
theorem partition_preserved (lm : LMap) (refLabels predLabels : List Lab) (hnd : predLabels.Nodup)
    (hlr : ∀ e ∈ lm, e.2 ∈ refLabels)
    (p q : Lab) (hp : p ∈ predLabels) (hq : q ∈ predLabels) :
    relabelFn lm refLabels predLabels p = relabelFn lm refLabels predLabels q ↔
      p = q ∨ ∃ r, lm.lookup p = some r ∧ lm.lookup q = some r := by
  -- a matched prediction lands inside the reference labels, an unmatched one outside
  have hin : ∀ x r, lm.lookup x = some r → relabelFn lm refLabels predLabels x = r ∧ r ∈ refLabels :=
    fun x r h => ⟨matched_label lm _ _ x r h, hlr _ (LMap.mem_of_lookup h)⟩
  have hout : ∀ x ∈ predLabels, lm.lookup x = none → relabelFn lm refLabels predLabels x ∉ refLabels :=
    fun x hx h => (fresh_outside_ref lm _ _ x hx (LMap.lookup_eq_none.1 h)).2
  cases hlp : lm.lookup p <;> cases hlq : lm.lookup q
  · simp only [reduceCtorEq, false_and, exists_false, or_false]
    exact ⟨fun h => Classical.byContradiction fun hne => fresh_distinct lm _ _ hnd p q hp hq hne
      (LMap.lookup_eq_none.1 hlp) (LMap.lookup_eq_none.1 hlq) h, fun h => h ▸ rfl⟩
  · have := hout p hp hlp; have := hin q _ hlq
    constructor
    · intro h; simp_all
    · rintro (rfl | ⟨r, h, _⟩) <;> simp_all
  · have := hout q hq hlq; have := hin p _ hlp
    constructor
    · intro h; simp_all
    · rintro (rfl | ⟨r, _, h⟩) <;> simp_all
  · rw [(hin p _ hlp).1, (hin q _ hlq).1]
    constructor
    · rintro rfl; exact .inr ⟨_, rfl, rfl⟩
    · rintro (rfl | ⟨r, h1, h2⟩)
      · exact Option.some.inj (hlp.symm.trans hlq)
      · simp_all

/-- the hypotheses on `predLabels` are met by what the code passes (`np.unique` of the non-zero
    values): every non-zero value of the array is a prediction label, none is 0, no duplicates -/
theorem predLabels_ok (pred : Flat) :
    (∀ x ∈ pred, x ≠ 0 → x ∈ labelsOf pred) ∧ (∀ p ∈ labelsOf pred, p ≠ 0) ∧ (labelsOf pred).Nodup := by
  refine ⟨fun x hx h0 => (mem_labelsOf pred x).2 ⟨hx, h0⟩,
    fun p hp => ((mem_labelsOf pred p).1 hp).2, labelsOf_nodup pred⟩

/-- regression (repaired defect): with the look-up table in the array's own dtype (uint8), the
    fresh label 256 wrapped to 0 and the unmatched prediction vanished; the fixed code keeps it -/
example : mapInstanceLabelsLegacy 8 [7, 7, 0, 9, 9] [255] [7, 9] [(7, 255)] = [255, 255, 0, 0, 0] := by decide
example : mapInstanceLabels 8 [7, 7, 0, 9, 9] [255] [7, 9] [(7, 255)] = [255, 255, 0, 256, 256] := by decide

/-- non-vacuity of `Bounded` -/
example : Bounded [7, 7, 0, 9, 9] [(7, 255)] [255] [7, 9] :=
  ⟨by decide, by decide, by decide, by decide⟩

end Panoptica.C04
