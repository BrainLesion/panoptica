/-
  C10 (end to end, count-based part) — for matched and unmatched instance input, the threshold
  matcher with IoU or Dice, and the count-based metrics IoU / Dice / RVD, everything the pipeline
  reports is a function of the multiset of (prediction label, reference label) pairs at foreground
  positions. Padding, cropping of shared empty margins, translation, mirroring an axis and
  permuting the axes (of both arrays identically, in any memory layout) all leave that multiset
  unchanged, hence leave every reported count, tp/fp/fn, per-instance value and the label map
  unchanged.  (Semantic input and ASSD are covered by the transport theorems of C10 / C07 / C05.)
-/
import Panoptica.Proofs.Invariance
import Panoptica.Properties.C10
namespace Panoptica.C10
open Panoptica

/-- what the pipeline reports (the relabelled array itself is an intermediate, not a result) -/
def report (o : PipeOut) : Nat × Nat × Nat × List (Metric × List Score) × Option LMap :=
  (o.nRef, o.nPred, o.tp, o.lists, o.lmap)

def countMetric (m : Metric) : Prop := m = .IOU ∨ m = .DSC ∨ m = .RVD

/-- configurations whose every ingredient is count-based -/
structure CountBased (cfg : Config) : Prop where
  input : cfg.input = .MATCHED ∨ cfg.input = .UNMATCHED
  metrics : ∀ m ∈ cfg.evalMetrics, countMetric m
  matcher : ∀ mc, cfg.matcher = some mc → (∃ m2o, mc.kind = .naive m2o) ∧ (mc.metric = .IOU ∨ mc.metric = .DSC)
  decision : ∀ d, cfg.decision = some d → (d.1 = .IOU ∨ d.1 = .DSC)

/-- the distinct non-zero labels of both maps are determined by the foreground pairs -/
theorem labelsOf_fgPairs (pred ref pred' ref' : Flat) (hlen : pred.length = ref.length) (hlen' : pred'.length = ref'.length)
    (hperm : (fgPairs pred ref).Perm (fgPairs pred' ref')) :
    labelsOf pred = labelsOf pred' ∧ labelsOf ref = labelsOf ref' := by
  exact labelsOf_fgPairs_aux pred ref pred' ref' hlen hlen' hperm

/-- the candidate pairs are determined by the foreground pairs -/
theorem overlapPairs_fgPairs (pred ref pred' ref' : Flat) (hlen : pred.length = ref.length) (hlen' : pred'.length = ref'.length)
    (hperm : (fgPairs pred ref).Perm (fgPairs pred' ref')) :
    overlapPairs pred ref (labelsOf ref) = overlapPairs pred' ref' (labelsOf ref') := by
  exact overlapPairs_fgPairs_aux pred ref pred' ref' hlen hlen' hperm

/-- IoU / Dice / RVD of a reference instance against a prediction instance are determined by them -/
theorem metricOn_fgPairs (m : Metric) (hm : countMetric m) (s s' : List Nat) (pred ref pred' ref' : Flat)
    (hlen : pred.length = ref.length) (hlen' : pred'.length = ref'.length)
    (hperm : (fgPairs pred ref).Perm (fgPairs pred' ref')) (r p : Lab) (hr : r ≠ 0) (hp : p ≠ 0) :
    metricOn m ⟨s, pred⟩ ⟨s, ref⟩ r [p] = metricOn m ⟨s', pred'⟩ ⟨s', ref'⟩ r [p] := by
  exact metricOn_fgPairs_aux m hm s s' pred ref pred' ref' hlen hlen' hperm r p hr hp

/-- end to end: same multiset of foreground label pairs ⇒ same report -/
theorem pipeline_counts_invariant (cfg : Config) (hc : CountBased cfg) (bits : Nat) (s s' : List Nat)
    (pred ref pred' ref' : Flat) (hlen : pred.length = ref.length) (hlen' : pred'.length = ref'.length)
    (hb : ∀ x ∈ pred ++ ref ++ pred' ++ ref', x < 2 ^ 32 - 1)
    (hperm : (fgPairs pred ref).Perm (fgPairs pred' ref')) :
    (pipeline cfg bits ⟨s, pred⟩ ⟨s, ref⟩).map report = (pipeline cfg bits ⟨s', pred'⟩ ⟨s', ref'⟩).map report := by
  rcases hc.input with hin | hin
  · rw [C01.pipeline_matched cfg bits ⟨s, pred⟩ ⟨s, ref⟩ hin,
      C01.pipeline_matched cfg bits ⟨s', pred'⟩ ⟨s', ref'⟩ hin]
    exact evalPhase_fgPairs cfg hc.metrics s s' pred ref pred' ref' hlen hlen' hperm none none none
  · exact pipeline_unmatched_fgPairs cfg hin hc.metrics (fun mc h => (hc.matcher mc h).2) bits s s' pred ref
      pred' ref' hlen hlen' (fun x hx => hb x (by rcases List.mem_append.1 hx with h | h <;> simp [h]))
      (fun x hx => hb x (by rcases List.mem_append.1 hx with h | h <;> simp [h])) hperm

/-- non-vacuity: a concrete count-based configuration, and a 1×3 scene next to its padded and
    mirrored 1×5 version with the same foreground pairs in another order -/
def exCfg : Config where
  input := .UNMATCHED
  backend := none
  matcher := some { kind := .naive false, metric := .IOU, thr := .exact (1/2) }
  evalMetrics := [.IOU, .DSC, .RVD]
  decision := some (.IOU, .exact (1/2))
  handler := { table := [], emptyListStd := .NAN }

example : CountBased exCfg :=
  ⟨Or.inr rfl, by simp [exCfg, countMetric], by simp [exCfg], by simp [exCfg]⟩

example : (fgPairs [1, 1, 2] [1, 0, 2]).Perm (fgPairs [0, 2, 1, 1, 0] [0, 2, 0, 1, 0]) := by decide

end Panoptica.C10
