/-
  C20 — dataset summaries are the statistics of exactly the recorded finite values.
-/
import Panoptica.Proofs.Table
namespace Panoptica.C20
open Panoptica.Tbl

/-- missing entries (NaN, ±inf, None, absent — all `none` after loading, C18.classify_spec) do not
    influence a summary -/
theorem summary_ignores_missing (l₁ l₂ : List (Option Rat)) :
    summary (l₁ ++ none :: l₂) = summary (l₁ ++ l₂) := by
  simp only [summary, finite_append_none]

/-- the order of subjects is irrelevant -/
theorem summary_perm (l₁ l₂ : List (Option Rat)) (h : l₁.Perm l₂) : summary l₁ = summary l₂ := by
  exact summarize_perm (finite_perm h)

/-- average and population variance of exactly the finite values -/
theorem summary_avg_var (l : List (Option Rat)) :
    (summary l).avg = sumQ (finite l) / ((finite l).length : Rat) ∧
    (summary l).var = sumQ ((finite l).map (fun x => (x - (summary l).avg) * (x - (summary l).avg))) / ((finite l).length : Rat) := by
  exact ⟨rfl, rfl⟩

/-- minimum and maximum of exactly the finite values -/
theorem summary_min_max (l : List (Option Rat)) (hne : finite l ≠ []) :
    (summary l).min ∈ finite l ∧ (∀ x ∈ finite l, (summary l).min ≤ x) ∧
    (summary l).max ∈ finite l ∧ (∀ x ∈ finite l, x ≤ (summary l).max) := by
  exact ⟨(minQ_spec _ hne).1, (minQ_spec _ hne).2, (maxQ_spec _ hne).1, (maxQ_spec _ hne).2⟩

/-- the finite values are exactly the recorded finite entries -/
theorem mem_finite (l : List (Option Rat)) (x : Rat) : x ∈ finite l ↔ some x ∈ l := by
  simp only [finite, List.mem_filterMap, id]
  constructor
  · rintro ⟨a, ha, rfl⟩; exact ha
  · intro h; exact ⟨some x, h, rfl⟩

/-- the across-groups summary is the same statistics taken over the per-group averages -/
theorem across_groups (cols : List (List (Option Rat))) :
    acrossGroups cols = summarize (cols.map (fun c => (summarize (finite c)).avg)) := by
  rfl

/-- per-subject lookup returns that subject's own entry of the column -/
theorem one_subject {F : Type} (t : Loaded F) (s g m : Str) (i j : Nat)
    (hi : t.subjects.idxOf? s = some i) (hj : t.keys.idxOf? (g, m) = some j)
    (row : List (Option F)) (hr : t.cols[i]? = some row) :
    t.get s g m = row[j]? ∧ (t.column g m)[i]? = some ((row[j]?).getD none) := by
  unfold Loaded.get Loaded.column
  rw [hi, hj]
  simp only
  rw [List.getElem?_map, hr]
  exact ⟨rfl, rfl⟩

/-- non-vacuity -/
example : finite [some 1, none, some 3] = [1, 3] := by decide

end Panoptica.C20
