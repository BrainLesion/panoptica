/-
  C07 — ASSD equals the mean of the two directed average surface distances.
  The executable model returns, for masks `R` (reference) and `P` (prediction) given as coordinate
  lists, the two lists of exact squared distances; the real-valued ASSD is defined from them here.
-/
import Mathlib.Analysis.Real.Sqrt
import Panoptica.Proofs.Geometry
import Panoptica.Spec.Transforms
namespace Panoptica.C07
open Panoptica Panoptica.Spec

/-- average of the Euclidean distances whose squares are listed -/
noncomputable def asd (l : List Nat) : ℝ := ((l.map (fun d => Real.sqrt (d : ℝ))).sum) / (l.length : ℝ)

/-- ASSD from the two directed lists -/
noncomputable def assdReal (a b : List Nat) : ℝ := (asd a + asd b) / 2

/-! ### auxiliary facts about `asd` -/

/-- the `List ℕ → List ℝ` coercion inserted by the elaborator in `asd` is the pointwise cast -/
theorem coe_list (l : List Nat) :
    (do let a ← l; pure (a : ℝ) : List ℝ) = l.map (fun d : Nat => (d : ℝ)) := by
  induction l with
  | nil => rfl
  | cons x xs ih =>
    simp only [List.map_cons, ← ih]
    rfl

theorem asd_eq (l : List Nat) :
    asd l = ((l.map (fun d : Nat => Real.sqrt (d : ℝ))).sum) / (l.length : ℝ) := by
  unfold asd
  rw [coe_list, List.map_map]
  rfl

theorem sqrtSum_nonneg (l : List Nat) : 0 ≤ (l.map (fun d : Nat => Real.sqrt (d : ℝ))).sum := by
  induction l with
  | nil => simp
  | cons x xs ih =>
    simp only [List.map_cons, List.sum_cons]
    exact add_nonneg (Real.sqrt_nonneg _) ih

theorem sqrtSum_eq_zero_iff (l : List Nat) :
    (l.map (fun d : Nat => Real.sqrt (d : ℝ))).sum = 0 ↔ ∀ d ∈ l, d = 0 := by
  induction l with
  | nil => simp
  | cons x xs ih =>
    simp only [List.map_cons, List.sum_cons, List.mem_cons, forall_eq_or_imp, ← ih]
    have h1 := Real.sqrt_nonneg (x : ℝ)
    have h2 := sqrtSum_nonneg xs
    constructor
    · intro h
      have h3 : Real.sqrt (x : ℝ) = 0 := by linarith
      have h4 : (x : ℝ) = 0 := (Real.sqrt_eq_zero (Nat.cast_nonneg x)).1 h3
      exact ⟨by exact_mod_cast h4, by linarith⟩
    · rintro ⟨rfl, h⟩
      simp [h]

theorem asd_nonneg (l : List Nat) : 0 ≤ asd l := by
  rw [asd_eq]
  exact div_nonneg (sqrtSum_nonneg l) (Nat.cast_nonneg _)

theorem asd_eq_zero_iff (l : List Nat) (h : l ≠ []) : asd l = 0 ↔ ∀ d ∈ l, d = 0 := by
  rw [asd_eq]
  have : (l.length : ℝ) ≠ 0 := by
    simpa using h
  rw [div_eq_zero_iff, sqrtSum_eq_zero_iff]
  simp [this]

/-- all directed squared distances vanish exactly when the prediction border lies in the
    reference border -/
theorem all_zero_iff_subset (n : Nat) (R P : List Coord) (hRl : ∀ c ∈ border R, c.length = n)
    (hPl : ∀ c ∈ border P, c.length = n) (hR : border R ≠ []) :
    (∀ d ∈ surfaceSqDists R P, d = 0) ↔ ∀ c, c ∈ border P → c ∈ border R := by
  constructor
  · intro h c hc
    obtain ⟨b, hb, hsome, -⟩ := nearestSq_spec' c (border R) hR
    have hmem : sqDist c b ∈ surfaceSqDists R P := by
      unfold surfaceSqDists
      exact List.mem_filterMap.2 ⟨c, hc, hsome⟩
    have h0 := h _ hmem
    have : c = b := (sqDist_eq_zero_iff c b (by rw [hPl c hc, hRl b hb])).1 h0
    exact this ▸ hb
  · intro h d hd
    unfold surfaceSqDists at hd
    obtain ⟨c, hc, hsome⟩ := List.mem_filterMap.1 hd
    obtain ⟨b, hb, hsome', hmin⟩ := nearestSq_spec' c (border R) hR
    have h1 := hmin c (h c hc)
    rw [sqDist_self] at h1
    rw [hsome'] at hsome
    have := Option.some.inj hsome
    omega

/-! ### what the lists are -/

/-- face neighbours are exactly the coordinates at L1-distance 1 -/
theorem mem_faceNeighbours (c x : Coord) : x ∈ faceNeighbours c ↔ faceAdj c x = true := by
  exact mem_faceNeighbours_iff c x

/-- a border voxel is a foreground voxel with a face neighbour that is not foreground
    (background or outside the array — the mask only lists foreground coordinates) -/
theorem mem_border (X : List Coord) (c : Coord) :
    c ∈ border X ↔ c ∈ X ∧ ∃ x, faceAdj c x = true ∧ x ∉ X := by
  simp [border, List.mem_filter, mem_faceNeighbours_iff]

/-- `nearestSq` is the minimum squared distance to the set -/
theorem nearestSq_spec (a : Coord) (B : List Coord) (hB : B ≠ []) :
    ∃ b ∈ B, nearestSq a B = some (sqDist a b) ∧ ∀ b' ∈ B, sqDist a b ≤ sqDist a b' := by
  exact nearestSq_spec' a B hB

/-- the directed list: for every border voxel of the prediction (in order) the squared distance to
    the nearest border voxel of the reference -/
theorem surfaceSqDists_spec (R P : List Coord) (hR : border R ≠ []) :
    (surfaceSqDists R P).length = (border P).length ∧
    ∀ i (h : i < (border P).length) (h' : i < (surfaceSqDists R P).length),
      ∃ b ∈ border R, (surfaceSqDists R P)[i] = sqDist ((border P)[i]) b ∧
        ∀ b' ∈ border R, sqDist ((border P)[i]) b ≤ sqDist ((border P)[i]) b' := by
  obtain ⟨hlen, hget⟩ := surfaceSqDists_spec' R P hR
  refine ⟨hlen, ?_⟩
  intro i h h'
  obtain ⟨b, hb, hsome, hmin⟩ := nearestSq_spec' ((border P)[i]) (border R) hR
  refine ⟨b, hb, ?_, hmin⟩
  have := hget i h h'
  rw [hsome] at this
  exact (Option.some.inj this).symm

/-! ### consequences -/

theorem assd_symm (a b : List Nat) : assdReal a b = assdReal b a := by
  unfold assdReal
  rw [add_comm]

theorem assd_nonneg (a b : List Nat) : 0 ≤ assdReal a b := by
  unfold assdReal
  exact div_nonneg (add_nonneg (asd_nonneg a) (asd_nonneg b)) (by norm_num)

/-- squared distance 0 means equal coordinates (same dimension) -/
theorem sqDist_eq_zero (a b : Coord) (h : a.length = b.length) : sqDist a b = 0 ↔ a = b := by
  exact sqDist_eq_zero_iff a b h

/-- ASSD is zero exactly when the two borders coincide (as sets) -/
theorem assd_zero_iff (n : Nat) (R P : List Coord) (hlen : ∀ c ∈ R ++ P, c.length = n)
    (hR : border R ≠ []) (hP : border P ≠ []) :
    assdReal (surfaceSqDists R P) (surfaceSqDists P R) = 0 ↔ (∀ c, c ∈ border R ↔ c ∈ border P) := by
  have hRl : ∀ c ∈ border R, c.length = n := fun c hc =>
    hlen c (List.mem_append_left _ (border_subset R c hc))
  have hPl : ∀ c ∈ border P, c.length = n := fun c hc =>
    hlen c (List.mem_append_right _ (border_subset P c hc))
  have hne : ∀ A B : List Coord, border A ≠ [] → border B ≠ [] → surfaceSqDists A B ≠ [] := by
    intro A B hA hB h0
    have := (surfaceSqDists_spec' A B hA).1
    rw [h0] at this
    exact hB (List.length_eq_zero_iff.1 this.symm)
  have key : assdReal (surfaceSqDists R P) (surfaceSqDists P R) = 0 ↔
      (∀ d ∈ surfaceSqDists R P, d = 0) ∧ (∀ d ∈ surfaceSqDists P R, d = 0) := by
    unfold assdReal
    rw [← asd_eq_zero_iff _ (hne R P hR hP), ← asd_eq_zero_iff _ (hne P R hP hR)]
    have h1 := asd_nonneg (surfaceSqDists R P)
    have h2 := asd_nonneg (surfaceSqDists P R)
    constructor
    · intro h
      constructor <;> linarith
    · rintro ⟨h3, h4⟩
      rw [h3, h4]; norm_num
  rw [key, all_zero_iff_subset n R P hRl hPl hR, all_zero_iff_subset n P R hPl hRl hP]
  constructor
  · rintro ⟨h1, h2⟩ c
    exact ⟨h2 c, h1 c⟩
  · intro h
    exact ⟨fun c => (h c).2, fun c => (h c).1⟩

/-- the lists (hence ASSD) are unchanged by any grid isometry applied to both masks: translations
    (embedding in a larger or tighter array), mirroring an axis, exchanging axes -/
theorem surfaceSqDists_isometry (n : Nat) (f : Coord → Coord) (hf : GridIsometry f n)
    (R P : List Coord) (hlen : ∀ c ∈ R ++ P, c.length = n) :
    surfaceSqDists (R.map f) (P.map f) = surfaceSqDists R P := by
  exact surfaceSqDists_map n f hf R P (fun c hc => hlen c (List.mem_append_left _ hc))
    (fun c hc => hlen c (List.mem_append_right _ hc))

theorem translate_isometry (n : Nat) (t : Coord) (ht : t.length = n) : GridIsometry (translate t) n := by
  exact translate_gridIsometry n t ht

theorem flipAxis_isometry (n k : Nat) (m : Int) (hk : k < n) : GridIsometry (flipAxis k m) n := by
  exact flipAxis_gridIsometry n k m hk

theorem swapAxes_isometry (n i j : Nat) (hi : i < n) (hj : j < n) : GridIsometry (swapAxes i j) n := by
  exact swapAxes_gridIsometry n i j hi hj

/-- non-vacuity: a 2-voxel line against a single voxel in 2-D -/
example : surfaceSqDists [[0, 0], [0, 1]] [[0, 3]] = [4] ∧ surfaceSqDists [[0, 3]] [[0, 0], [0, 1]] = [9, 4] := by decide

end Panoptica.C07
