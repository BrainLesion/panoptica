/-
  C19, configurations addressed by name — `byName` (Model/NameCode.lean; proved to be what `config_dir_by_name` computes,
  Extracted/NameCode.lean) for every name: the designated file name ends in ".yaml", keeps the whole name as a prefix (inner
  dots, version numbers and all), is the same whether or not the extension is spelled out, and two names designate the same
  file only if they are equal up to that optional extension — so configurations saved under different names never overwrite
  each other.
-/
import Panoptica.Model.NameCode
namespace Panoptica.C19
open Panoptica.NameCode

theorem byName_ends (n : List Char) : ext <:+ byName n := by
  unfold byName
  split
  · next h => exact List.isSuffixOf_iff_suffix.1 h
  · exact List.suffix_append n ext

theorem byName_prefix (n : List Char) : n <+: byName n := by
  unfold byName
  split
  · exact List.prefix_refl n
  · exact List.prefix_append n ext

theorem byName_idem (n : List Char) : byName (byName n) = byName n := by
  have h := List.isSuffixOf_iff_suffix.2 (byName_ends n)
  generalize byName n = m at h ⊢
  unfold byName
  rw [if_pos h]

/-- giving the extension explicitly designates the same file -/
theorem byName_with_ext (n : List Char) : byName (n ++ ext) = n ++ ext := by
  unfold byName
  rw [if_pos (List.isSuffixOf_iff_suffix.2 (List.suffix_append n ext))]

/-- two names designate the same file only if they agree up to the optional extension -/
theorem byName_inj (a b : List Char) (h : byName a = byName b) : a = b ∨ a = b ++ ext ∨ b = a ++ ext := by
  unfold byName at h
  split at h <;> split at h
  · exact Or.inl h
  · exact Or.inr (Or.inl h)
  · exact Or.inr (Or.inr h.symm)
  · exact Or.inl (List.append_cancel_right h)

/-- non-vacuity / the seeded regression: version-style names stay apart -/
example : byName "cfg_v1.0".toList ≠ byName "cfg_v1.5".toList ∧ byName "cfg_v1.0".toList = "cfg_v1.0.yaml".toList ∧
    byName "cfg.yaml".toList = "cfg.yaml".toList := by
  decide +kernel

end Panoptica.C19
