/-
  C05 — instance approximation yields exactly the connected components.
  `closure`/`ccLabel` are the specified functions behind cc3d / scipy.ndimage.label; the theorems
  are for every finite voxel set `V` (any size, any dimension) and every symmetric adjacency.
-/
import Panoptica.Proofs.CC
import Panoptica.Proofs.Coord
namespace Panoptica.C05
open Panoptica Panoptica.Spec

section generic
variable {α : Type} [BEq α] [LawfulBEq α] (adj : α → α → Bool)

/-- saturation computes exactly the set reachable from the seed (every instance is connected, and
    nothing joinable is left out) -/
theorem closure_iff (V : List α) (seed b : α) :
    b ∈ closure adj V seed ↔ Reach adj V seed b := by
  exact mem_closure_iff adj V seed b

/-- every element of `V` receives exactly one label -/
theorem cc_total (hsymm : ∀ a b, adj a b = adj b a) (V : List α) (hnd : V.Nodup) :
    (∀ v ∈ V, ∃ n, (v, n) ∈ ccLabel adj V) ∧ ((ccLabel adj V).map (·.1)).Nodup ∧
    (∀ e ∈ ccLabel adj V, e.1 ∈ V) := by
  obtain ⟨inv, hall⟩ := ccLabel_spec (adj := adj) hsymm hnd
  exact ⟨hall, inv.nodup, inv.keysV⟩

/-- two elements carry the same label exactly when they are connected: every instance is a
    connected set and no two joinable instances are left separate -/
theorem cc_same_iff (hsymm : ∀ a b, adj a b = adj b a) (V : List α) (hnd : V.Nodup)
    (a b : α) (n m : Nat) (ha : (a, n) ∈ ccLabel adj V) (hb : (b, m) ∈ ccLabel adj V) :
    n = m ↔ Reach adj V a b := by
  have inv := (ccLabel_spec (adj := adj) hsymm hnd).1
  exact ⟨fun h => inv.conn a b n ha (h ▸ hb), fun h => nodup_keys_unique inv.nodup (inv.closed a b n ha h) hb⟩

/-- the labels are exactly 1..n and the reported count is n -/
theorem cc_range (hsymm : ∀ a b, adj a b = adj b a) (V : List α) (hnd : V.Nodup) (k : Nat) :
    (∃ v, (v, k) ∈ ccLabel adj V) ↔ (1 ≤ k ∧ k ≤ ccCount adj V) := by
  have inv := (ccLabel_spec (adj := adj) hsymm hnd).1
  exact ⟨fun ⟨v, hv⟩ => ⟨(inv.lt _ hv).1, Nat.le_of_lt_succ (inv.lt _ hv).2⟩,
    fun ⟨h1, h2⟩ => inv.used k h1 (Nat.lt_succ_of_le h2)⟩

end generic

/-! ### the two backends -/

theorem faceAdj_symm (a b : Coord) : faceAdj a b = faceAdj b a := by
  unfold faceAdj
  rw [absDiffs_comm a b, BEq.comm (a := a.length)]

theorem fullAdj_symm (a b : Coord) : fullAdj a b = fullAdj b a := by
  unfold fullAdj
  rw [absDiffs_comm a b, BEq.comm (a := a.length), bne_comm (a := a)]

theorem backendAdj_symm (bk : Backend) (a b : Coord × Lab) : backendAdj bk a b = backendAdj bk b a := by
  cases bk
  · show (fullAdj a.1 b.1 && a.2 == b.2) = (fullAdj b.1 a.1 && b.2 == a.2)
    rw [fullAdj_symm, BEq.comm (a := a.2)]
  · exact faceAdj_symm a.1 b.1

/-- face neighbours are full neighbours (4/6-connectivity refines 8/26-connectivity) -/
theorem faceAdj_fullAdj (a b : Coord) (h : faceAdj a b = true) : fullAdj a b = true := by
  obtain ⟨hl, hs⟩ := (faceAdj_iff a b).1 h
  exact (fullAdj_iff a b).2 ⟨hl, by omega, fun d hd => hs ▸ le_sum_of_mem hd⟩

/-- the cc3d backend never joins voxels of different semantic labels -/
theorem cc3d_never_joins_labels (V : List (Coord × Lab)) (a b : Coord × Lab)
    (h : Reach (backendAdj .cc3d) V a b) : a.2 = b.2 := by
  induction h with
  | refl _ => rfl
  | step _ _ hadj ih =>
    have hadj' : (fullAdj _ _ && _ == _) = true := hadj
    rw [Bool.and_eq_true] at hadj'
    exact ih.trans (eq_of_beq hadj'.2)

/-- the scipy backend uses face connectivity on the foreground mask, whatever the labels -/
theorem scipy_face_only (a b : Coord × Lab) : backendAdj .scipy a b = faceAdj a.1 b.1 := by
  rfl

/-- by default 3-D (and higher) input uses cc3d, lower-dimensional input scipy -/
theorem default_backend (ndim : Nat) :
    defaultBackend ndim = if 3 ≤ ndim then Backend.cc3d else Backend.scipy := by
  rfl

/-- non-vacuity: a diagonal contact in 2-D is one component under full and two under face connectivity -/
example : ccCount (backendAdj .cc3d) [(([0, 0] : Coord), 1), ([1, 1], 1)] = 1 ∧
          ccCount (backendAdj .scipy) [(([0, 0] : Coord), 1), ([1, 1], 1)] = 2 := by decide

end Panoptica.C05
