/-
  C01 — reported panoptic results equal the published definitions, end to end.
  The capstone: `pipeline` (the model of `panoptic_evaluate`) is shown to be exactly the
  composition the documentation describes, so that the stage theorems apply to its output:
  components (C05) → candidates = overlapping label pairs scored by the metric on the voxel sets
  (C09, C06, C07) → best-first thresholded assignment (C03) → relabelling (C04) → one metric
  dictionary per matched label, decision filter, tp = number of passing instances, one list entry
  per true positive (C02) → fp/fn/sq/rq/pq by their formulas (C02, C08).
-/
import Panoptica.Proofs.Pipeline
import Panoptica.Properties.C02
import Panoptica.Properties.C03
import Panoptica.Properties.C09
namespace Panoptica.C01
open Panoptica

/-- matched input goes straight to the evaluation phase -/
theorem pipeline_matched (cfg : Config) (bits : Nat) (pred ref : Arr) (h : cfg.input = .MATCHED) :
    pipeline cfg bits pred ref = evalPhase cfg pred ref none none := by
  unfold pipeline
  rw [h]

/-- evaluation phase: instance counts are the numbers of distinct non-zero labels; there is one
    list per evaluated metric, each with exactly tp entries; tp is bounded by both counts -/
theorem evalPhase_bookkeeping (cfg : Config) (pred ref : Arr) (lm : Option LMap) (mp : Option Flat) (out : PipeOut)
    (h : evalPhase cfg pred ref lm mp = .ok out) :
    out.nPred = (labelsOf pred.data).length ∧ out.nRef = (labelsOf ref.data).length ∧
    out.lists.map (·.1) = cfg.evalMetrics ∧ (∀ e ∈ out.lists, e.2.length = out.tp) ∧
    out.tp ≤ out.nPred ∧ out.tp ≤ out.nRef := by
  by_cases h0 : labelsOf pred.data = [] ∨ labelsOf ref.data = []
  · rw [evalPhase_of_zero cfg pred ref lm mp h0] at h
    cases h
    refine ⟨rfl, rfl, ?_, ?_, ?_, ?_⟩
    · simp only [List.map_map]
      exact List.map_id'' (fun _ => rfl) _
    · intro e he
      obtain ⟨m, _, rfl⟩ := List.mem_map.1 he
      rfl
    · exact Nat.zero_le _
    · exact Nat.zero_le _
  · have hp : labelsOf pred.data ≠ [] := fun e => h0 (Or.inl e)
    have hr : labelsOf ref.data ≠ [] := fun e => h0 (Or.inr e)
    rw [evalPhase_of_nonzero cfg pred ref lm mp hp hr] at h
    cases h
    have hle := C02.tp_le_matched Score.le cfg.evalMetrics cfg.decision
      ((matchedInstances pred.data ref.data).map (evaluateInstance cfg.evalMetrics pred ref))
    rw [List.length_map] at hle
    have hc := C02.matched_le_counts pred.data ref.data
    refine ⟨rfl, rfl, ?_, ?_, ?_, ?_⟩
    · exact C02.lists_keys Score.le cfg.evalMetrics cfg.decision _
    · apply C02.lists_len
      intro d hd m hm
      obtain ⟨l, _, rfl⟩ := List.mem_map.1 hd
      exact evaluateInstance_full cfg.evalMetrics pred ref l m hm
    · exact Nat.le_trans hle hc.1
    · exact Nat.le_trans hle hc.2

/-- tp is the number of labels present in both maps whose decision value meets the decision
    threshold (all of them when no decision metric is configured) -/
theorem evalPhase_tp (cfg : Config) (pred ref : Arr) (lm : Option LMap) (mp : Option Flat) (out : PipeOut)
    (h : evalPhase cfg pred ref lm mp = .ok out)
    (hp : labelsOf pred.data ≠ []) (hr : labelsOf ref.data ≠ []) :
    out.tp = ((matchedInstances pred.data ref.data).filter
      (fun l => passesDecision Score.le cfg.decision (evaluateInstance cfg.evalMetrics pred ref l))).length := by
  rw [evalPhase_of_nonzero cfg pred ref lm mp hp hr] at h
  cases h
  show (evalMatched Score.le cfg.evalMetrics cfg.decision _).1 = _
  rw [C02.tp_eq_passing, List.filter_map, List.length_map]
  rfl

/-- the per-true-positive values of metric `m` are the metric of reference instance `l` against
    prediction instance `l`, for exactly the passing labels, in label order -/
theorem evalPhase_values (cfg : Config) (pred ref : Arr) (lm : Option LMap) (mp : Option Flat) (out : PipeOut)
    (h : evalPhase cfg pred ref lm mp = .ok out)
    (hp : labelsOf pred.data ≠ []) (hr : labelsOf ref.data ≠ [])
    (m : Metric) (hm : m ∈ cfg.evalMetrics) (vals : List Score) (hv : (m, vals) ∈ out.lists) :
    vals.length = out.tp ∧
    ∀ v ∈ vals, ∃ l ∈ matchedInstances pred.data ref.data, True ∧
      passesDecision Score.le cfg.decision (evaluateInstance cfg.evalMetrics pred ref l) = true := by
  have _ := hm
  refine ⟨?_, ?_⟩
  · exact (evalPhase_bookkeeping cfg pred ref lm mp out h).2.2.2.1 _ hv
  · rw [evalPhase_of_nonzero cfg pred ref lm mp hp hr] at h
    cases h
    simp only [evalMatched, List.mem_map] at hv
    obtain ⟨m', _, heq⟩ := hv
    cases heq
    intro v hvm
    obtain ⟨d, hd, _⟩ := List.mem_filterMap.1 hvm
    obtain ⟨hd1, hd2⟩ := List.mem_filter.1 hd
    obtain ⟨l, hl, rfl⟩ := List.mem_map.1 hd1
    exact ⟨l, hl, trivial, hd2⟩

/-- when a side has no instance the result has tp = 0 and empty lists (the handler decides the
    aggregates, C08) -/
theorem evalPhase_zero (cfg : Config) (pred ref : Arr) (lm : Option LMap) (mp : Option Flat)
    (h0 : labelsOf pred.data = [] ∨ labelsOf ref.data = []) :
    ∃ out, evalPhase cfg pred ref lm mp = .ok out ∧ out.tp = 0 ∧ ∀ e ∈ out.lists, e.2 = [] := by
  exact ⟨_, evalPhase_of_zero cfg pred ref lm mp h0, rfl, by
    intro e he
    obtain ⟨m, _, rfl⟩ := List.mem_map.1 he
    rfl⟩

/-- unmatched input with the threshold matcher: the pipeline never raises, the label map is the
    best-first greedy assignment over the scored overlapping pairs, and the result is the evaluation
    phase on the prediction relabelled by it -/
theorem pipeline_unmatched_naive (cfg : Config) (bits : Nat) (pred ref : Arr) (metric : Metric) (thr : Score) (m2o : Bool)
    (hin : cfg.input = .UNMATCHED)
    (hm : cfg.matcher = some { kind := .naive m2o, metric := metric, thr := thr })
    (hp : labelsOf pred.data ≠ []) (hr : labelsOf ref.data ≠ []) :
    let lm := naiveLoop Score.le metric.decreasing thr m2o (sortBest Score.le metric.decreasing (scoredCands metric pred ref))
    let newPred := mapInstanceLabels bits pred.data (labelsOf ref.data) (labelsOf pred.data) lm
    pipeline cfg bits pred ref = evalPhase cfg { shape := pred.shape, data := newPred } ref (some lm) (some newPred) := by
  intro lm newPred
  unfold pipeline
  rw [hin]
  show matchPhase cfg bits pred ref _ _ = _
  apply matchPhase_of_nonzero cfg bits pred ref _ _ _ lm _ hm
  · unfold runMatcher
    exact C03.naive_total Score.le metric.decreasing thr m2o _
  · exact counts_nonzero hp hr

/-- the candidates handed to the matcher are exactly the pairs of instances that share a voxel,
    each scored by the matching metric on the two voxel sets -/
theorem scoredCands_spec (metric : Metric) (pred ref : Arr) (hlen : pred.data.length = ref.data.length)
    (hp : ∀ x ∈ pred.data, x < 2 ^ 32) (hr : ∀ x ∈ ref.data, x < 2 ^ 32 - 1) (r p : Lab) :
    (∃ c ∈ scoredCands metric pred ref, c.ref = r ∧ c.pred = p) ↔
      (r ≠ 0 ∧ p ≠ 0 ∧ overlaps pred.data ref.data r p = true) := by
  rw [← C09.overlapPairs_spec pred.data ref.data hlen hp hr r p]
  unfold scoredCands
  constructor
  · rintro ⟨c, hc, rfl, rfl⟩
    obtain ⟨⟨r', p'⟩, hmem, rfl⟩ := List.mem_map.1 hc
    exact hmem
  · intro hmem
    exact ⟨_, List.mem_map.2 ⟨(r, p), hmem, rfl⟩, rfl, rfl⟩

theorem scoredCands_score (metric : Metric) (pred ref : Arr) :
    ∀ c ∈ scoredCands metric pred ref, c.score = metricOn metric pred ref c.ref [c.pred] := by
  intro c hc
  unfold scoredCands at hc
  obtain ⟨⟨r', p'⟩, _, rfl⟩ := List.mem_map.1 hc
  rfl

/-- semantic input: both maps are replaced by their connected components under the configured
    (or default) backend, then treated as unmatched instances -/
theorem pipeline_semantic (cfg : Config) (bits : Nat) (pred ref : Arr) (hin : cfg.input = .SEMANTIC)
    (hp : labelsOf pred.data ≠ []) (hr : labelsOf ref.data ≠ []) :
    let b := cfg.backend.getD (defaultBackend pred.shape.length)
    pipeline cfg bits pred ref =
      matchPhase cfg (smallestUintBits (max (maxOf (connectedComponents b pred).1.data) (maxOf (connectedComponents b ref).1.data)))
        (connectedComponents b pred).1 (connectedComponents b ref).1
        (connectedComponents b pred).2 (connectedComponents b ref).2 := by
  intro b
  unfold pipeline
  rw [hin]
  simp only [List.isEmpty_eq_false_iff.2 hp, List.isEmpty_eq_false_iff.2 hr]
  rfl

/-- the matching used by the pipeline inherits soundness, conflict-freedom and maximality (C03) -/
theorem pipeline_matching_valid (metric : Metric) (thr : Score) (pred ref : Arr) :
    let cs := sortBest Score.le metric.decreasing (scoredCands metric pred ref)
    let lm := naiveLoop Score.le metric.decreasing thr false cs
    (lm.map (·.1)).Nodup ∧ (lm.map (·.2)).Nodup ∧
    (∀ e ∈ lm, ∃ c ∈ cs, c.pred = e.1 ∧ c.ref = e.2 ∧ beats Score.le metric.decreasing c.score thr = true) ∧
    (∀ c ∈ cs, beats Score.le metric.decreasing c.score thr = true →
      lm.containsPred c.pred = true ∨ lm.containsRef c.ref = true) := by
  intro cs lm
  refine ⟨C03.functional Score.le metric.decreasing thr false cs,
    C03.injective Score.le metric.decreasing thr cs,
    C03.sound Score.le metric.decreasing thr false cs, ?_⟩
  intro c hc hb
  rcases C03.maximal Score.le metric.decreasing thr false cs c hc hb with h | h
  · exact Or.inl h
  · exact Or.inr h.2

end Panoptica.C01
