/-
  C03 / C01 — "whenever the documented procedure determines the answer uniquely, the library's
  answer is that answer": if no two competing eligible candidates have equally good scores, then
  EVERY assignment that is sound, conflict-free (one-to-one) and best-first-stable is, as a set of
  pairs, the assignment computed by the threshold matcher.
-/
import Panoptica.Properties.C03
import Panoptica.Proofs.Unique
namespace Panoptica.C03
open Panoptica

variable {S : Type} (le : S → S → Bool) (dec : Bool) (thr : S)

/-- two candidates compete: they share the prediction or the reference -/
def competes (a b : Cand S) : Bool := a.pred == b.pred || a.ref == b.ref

/-- strictly better in the metric's direction -/
def strictlyBetterC (a b : Cand S) : Bool := betterEq le dec a b && !betterEq le dec b a

/-- a one-to-one assignment `M` (list of (pred, ref)) that a reader of the documentation would
    accept for the candidate list `cs` at threshold `thr` -/
structure ValidMatching (cs : List (Cand S)) (M : List (Lab × Lab)) : Prop where
  /-- every assigned pair is a candidate whose score meets the threshold -/
  sound : ∀ e ∈ M, ∃ c ∈ cs, c.pred = e.1 ∧ c.ref = e.2 ∧ beats le dec c.score thr = true
  /-- each prediction and each reference is used at most once, no pair is listed twice -/
  predsNodup : (M.map (·.1)).Nodup
  refsNodup : (M.map (·.2)).Nodup
  /-- an eligible candidate is left out only in favour of a strictly better competing pair -/
  stable : ∀ c ∈ cs, beats le dec c.score thr = true → (c.pred, c.ref) ∉ M →
    ∃ c' ∈ cs, (c'.pred, c'.ref) ∈ M ∧ competes c' c = true ∧ strictlyBetterC le dec c' c = true

/-- no two distinct competing eligible candidates are equally good, and no label pair is listed twice -/
structure Determined (cs : List (Cand S)) : Prop where
  keysNodup : (cs.map (fun c => (c.pred, c.ref))).Nodup
  distinct : ∀ a ∈ cs, ∀ b ∈ cs, (a.pred, a.ref) ≠ (b.pred, b.ref) → competes a b = true →
    beats le dec a.score thr = true → beats le dec b.score thr = true →
    strictlyBetterC le dec a b = true ∨ strictlyBetterC le dec b a = true

/-- a valid assignment for `cs`, seen over the best-first sorted candidate list -/
theorem ValidMatching.good {cs L : List (Cand S)} (hperm : L.Perm cs) {M : List (Lab × Lab)}
    (hM : ValidMatching le dec thr cs M) :
    GoodMatch (fun c : Cand S => (c.pred, c.ref)) (fun c => beats le dec c.score thr = true)
      (fun a b => betterEq le dec a b = true) L M where
  sound := by
    intro e he
    obtain ⟨c, hc, h1, h2, hb⟩ := hM.sound e he
    exact ⟨c, hperm.mem_iff.2 hc, by rw [h1, h2], hb⟩
  preds := hM.predsNodup
  refs := hM.refsNodup
  stable := by
    intro c hc hb hnot
    obtain ⟨c', hc', hin, hcomp, hstrict⟩ := hM.stable c (hperm.mem_iff.1 hc) hb hnot
    refine ⟨c', hperm.mem_iff.2 hc', hin, ?_, ?_⟩
    · simpa [competes] using hcomp
    · simp only [strictlyBetterC, Bool.and_eq_true, Bool.not_eq_true'] at hstrict
      rw [hstrict.2]; exact Bool.false_ne_true

/-- Both modes at once.  If candidates that conflict *in the given mode* are never equally good, the
    loop on the best-first list leaves an eligible candidate out only for a strictly better conflicting
    one.  (No `keysNodup` needed: the invariant already says the displacing candidate is eligible.) -/
theorem naive_stable (m2o : Bool) (htot : ∀ a b, le a b = true ∨ le b a = true)
    (htrans : ∀ a b c, le a b = true → le b c = true → le a c = true) (cs : List (Cand S))
    (hd : ∀ a ∈ cs, ∀ b ∈ cs, (a.pred, a.ref) ≠ (b.pred, b.ref) →
      (a.pred = b.pred ∨ (m2o = false ∧ a.ref = b.ref)) →
      beats le dec a.score thr = true → beats le dec b.score thr = true →
      strictlyBetterC le dec a b = true ∨ strictlyBetterC le dec b a = true) :
    ∀ c ∈ cs, beats le dec c.score thr = true →
      (c.pred, c.ref) ∉ naiveLoop le dec thr m2o (sortBest le dec cs) →
      ∃ c' ∈ cs, (c'.pred, c'.ref) ∈ naiveLoop le dec thr m2o (sortBest le dec cs) ∧
        (c'.pred = c.pred ∨ (m2o = false ∧ c'.ref = c.ref)) ∧ strictlyBetterC le dec c' c = true := by
  obtain ⟨hsorted, hperm⟩ := sortBest_sorted le dec htot htrans cs
  intro c hc hb hnot
  obtain ⟨c', hc', hin, hconf, hbe, hb'⟩ :=
    (naiveLoop_inv le dec thr m2o hsorted).best c (hperm.mem_iff.2 hc) hb hnot
  have hc' := hperm.mem_iff.1 hc'
  refine ⟨c', hc', hin, hconf, ?_⟩
  rcases hd c' hc' c hc (fun h => hnot (h ▸ hin)) hconf hb' hb with h | h
  · exact h
  · simp [strictlyBetterC, hbe] at h

/-- the matcher's own result is such an assignment (when the answer is determined) -/
theorem naive_valid (htot : ∀ a b, le a b = true ∨ le b a = true)
    (htrans : ∀ a b c, le a b = true → le b c = true → le a c = true)
    (cs : List (Cand S)) (hd : Determined le dec thr cs) :
    ValidMatching le dec thr cs (naiveLoop le dec thr false (sortBest le dec cs)) := by
  have hcomp : ∀ a b : Cand S, (a.pred = b.pred ∨ (false = false ∧ a.ref = b.ref)) → competes a b = true := by
    rintro a b (h | ⟨_, h⟩) <;> simp [competes, h]
  have hinv := naiveLoop_inv' le dec thr false (sortBest le dec cs)
  refine ⟨fun e he => ?_, hinv.functional, hinv.injective rfl, fun c hc hb hnot => ?_⟩
  · obtain ⟨c, hc, h⟩ := hinv.sound e he
    exact ⟨c, (sortBest_sorted le dec htot htrans cs).2.mem_iff.1 hc, h⟩
  · obtain ⟨c', hc', hin, hconf, hsb⟩ := naive_stable le dec thr false htot htrans cs
      (fun a ha b hb hne hconf => hd.distinct a ha b hb hne (hcomp a b hconf)) c hc hb hnot
    exact ⟨c', hc', hin, hcomp c' c hconf, hsb⟩

/-- uniqueness: any such assignment has exactly the pairs of the matcher's result -/
theorem unique (htot : ∀ a b, le a b = true ∨ le b a = true)
    (htrans : ∀ a b c, le a b = true → le b c = true → le a c = true)
    (cs : List (Cand S)) (hd : Determined le dec thr cs)
    (M : List (Lab × Lab)) (hM : ValidMatching le dec thr cs M) :
    ∀ e, e ∈ M ↔ e ∈ naiveLoop le dec thr false (sortBest le dec cs) := by
  obtain ⟨hsorted, hperm⟩ := sortBest_sorted le dec htot htrans cs
  have hkeysL : ((sortBest le dec cs).map (fun c : Cand S => (c.pred, c.ref))).Nodup :=
    (hperm.map _).nodup_iff.2 hd.keysNodup
  exact goodMatch_unique hsorted hkeysL (hM.good le dec thr hperm)
    ((naive_valid le dec thr htot htrans cs hd).good le dec thr hperm)

/-- hence the number of true positives is determined -/
theorem unique_length (htot : ∀ a b, le a b = true ∨ le b a = true)
    (htrans : ∀ a b c, le a b = true → le b c = true → le a c = true)
    (cs : List (Cand S)) (hd : Determined le dec thr cs)
    (M : List (Lab × Lab)) (hM : ValidMatching le dec thr cs M) :
    M.length = (naiveLoop le dec thr false (sortBest le dec cs)).length := by
  apply length_eq_of_nodup_of_mem_iff
  · exact nodup_of_nodup_map _ _ hM.predsNodup
  · exact nodup_of_nodup_map _ _ (functional le dec thr false _)
  · exact unique le dec thr htot htrans cs hd M hM

end Panoptica.C03
