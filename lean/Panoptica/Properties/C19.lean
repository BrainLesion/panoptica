/-
  C19 — saving and loading a configuration reproduces the same evaluator.
  Generic part: for EVERY class descriptor that is `WellFormed` (decidable), every value type,
  every constructor-default table and every argument table, saving → loading → saving reproduces
  the saved mapping, and the reloaded object has the same represented settings.
  Specific part: panoptica's descriptors — as extracted from the current source on every run
  (Extracted/Config.lean: `Generated.classes = expectedClasses`) — are well formed.
-/
import Panoptica.Proofs.Basic
import Panoptica.Proofs.Config
namespace Panoptica.C19
open Panoptica.Cfg

variable {V : Type}

/-- assumptions on the value domain: None is recognisable, freshly created default objects are not
    None, and the normalisations applied in constructors are idempotent
    (`list(set(list(set(x)))) = list(set(x))`, lower-casing of names) -/
structure SemOK (S : Sem V) : Prop where
  none_eq : ∀ v, S.isNone v = true → v = S.none
  new_not_none : ∀ c, S.isNone (S.new c) = false
  norm_idem : ∀ n v, S.norm n (S.norm n v) = S.norm n v

/-- what is written to the file for an object built from the argument table `data` -/
def saved (S : Sem V) (defaults : String → V) (d : ClassDesc) (data : List (String × V)) : List (String × V) :=
  represent d (construct S defaults d data)

/-- save → load → save reproduces the same file: the mapping saved from the reloaded object equals
    the mapping saved from the original one -/
theorem save_load_save (S : Sem V) (hS : SemOK S) (defaults : String → V) (d : ClassDesc)
    (hd : WellFormed d = true) (hdef : ∀ q ∈ d.noneDefault, defaults q = S.none)
    (data : List (String × V)) :
    saved S defaults d (saved S defaults d data) = saved S defaults d data := by
  unfold saved
  exact represent_congr d _ _ (fun k a hk =>
    construct_saved_lookup S hS.none_eq hS.new_not_none hS.norm_idem defaults
      (wf_of_wellFormed hd) hdef data hk)

/-- every YAML key is written (nothing a well-formed class represents is dropped on saving) -/
theorem saved_keys (S : Sem V) (defaults : String → V) (d : ClassDesc) (hd : WellFormed d = true)
    (data : List (String × V)) :
    (saved S defaults d data).map (·.1) = reprKeys d := by
  exact represent_construct_keys S defaults (wf_of_wellFormed hd) data

/-- the reloaded object has identical represented settings: every attribute that some YAML key
    reads has the same value in the reloaded object as in the original -/
theorem reload_same_settings (S : Sem V) (hS : SemOK S) (defaults : String → V) (d : ClassDesc)
    (hd : WellFormed d = true) (hdef : ∀ q ∈ d.noneDefault, defaults q = S.none)
    (data : List (String × V)) (k a : String) (hk : (k, ReprE.attr a) ∈ d.repr) :
    lookup (construct S defaults d (saved S defaults d data)) a = lookup (construct S defaults d data) a := by
  exact construct_saved_lookup S hS.none_eq hS.new_not_none hS.norm_idem defaults
    (wf_of_wellFormed hd) hdef data hk

/-- a transformed value on the way out (example of what the decidable check rejects) -/
def badTransformed : ClassDesc where
  name := "X"
  bases := []
  inherits := none
  params := ["a", "b"]
  noneDefault := []
  stores := [("a", .param "a" .id), ("b", .param "b" .id)]
  repr := [("a", .attr "a"), ("b", .other "round(node.b, 2)")]

/-- a YAML key that is not a constructor parameter -/
def badKey : ClassDesc where
  name := "X"
  bases := []
  inherits := none
  params := ["a"]
  noneDefault := []
  stores := [("a", .param "a" .id)]
  repr := [("c", .attr "a")]

example : WellFormed badTransformed = false ∧ WellFormed badKey = false := by decide

/-- panoptica's configurable classes (all but the one outside the extractor's subset) are well formed -/
theorem panoptica_wellformed :
    ∀ d ∈ expectedClasses, d.name ∉ manualClasses → WellFormed d = true := by
  decide +kernel

/-- every attribute that influences a well-formed panoptica class's saved state is represented:
    each constructor parameter either is a YAML key or only serves as a None-default fall-back -/
theorem panoptica_params_represented :
    ∀ d ∈ expectedClasses, d.name ∉ manualClasses →
      ∀ p ∈ d.params, p ∈ reprKeys d ∨
        (p ∈ d.noneDefault ∧ d.stores.any (fun e => match e.2 with | .ifNoneParam _ q => q == p | _ => false) = true) := by
  decide +kernel

/-- enum values are (de)serialised by member name: names are pairwise distinct within each enum -/
theorem enum_names_distinct : ∀ e ∈ expectedEnums, e.2.Nodup := by
  decide +kernel

/-- The one normalisation a constructor applies to a list-valued setting — `LabelGroup` stores
    `sorted(set(value_labels))`, in the model `uniqueSorted` — is idempotent and independent of the order
    in which the labels were given, so it satisfies `SemOK.norm_idem` by theorem, not by assumption.
    (Before the repair the code stored `list(set(value_labels))`; CPython iterates `{3, 19}` as `[19, 3]`
    or `[3, 19]` depending on insertion order, so that normalisation was neither: save → load → save wrote
    a different file. Found by the class-group generator, repaired in /repo, see known_findings.json.) -/
theorem label_norm_idem (l : List Nat) : uniqueSorted (uniqueSorted l) = uniqueSorted l :=
  uniqueSorted_idem l

theorem label_norm_order_free (l l' : List Nat) (h : ∀ x, x ∈ l ↔ x ∈ l') : uniqueSorted l = uniqueSorted l' := by
  apply sorted_ext _ _ (uniqueSorted_sorted l) (uniqueSorted_sorted l')
  intro x
  rw [mem_uniqueSorted, mem_uniqueSorted]
  exact h x

example : uniqueSorted [19, 3] = uniqueSorted [3, 19] := by decide

end Panoptica.C19
