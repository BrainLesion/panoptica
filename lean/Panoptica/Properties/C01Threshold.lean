/-
  C01 (corollaries of the values theorem)
  * every true positive that is reported meets the matching threshold in the matching metric — for the
    one-to-one threshold matcher (the pair's own score) and for the merge matcher (the final score of the
    merged prediction, C14), matching on IoU or Dice;
  * semantic input: the closed form of `pipeline_unmatched_values` holds for the connected components of the
    two maps (C05) — instances are the components, matched best-first, evaluated pair by pair.
-/
import Panoptica.Proofs.Threshold
import Panoptica.Proofs.SemanticE2E
import Panoptica.Properties.C01Values
import Panoptica.Properties.C14
import Panoptica.Properties.C05
namespace Panoptica.C01
open Panoptica

/-- every reported value of the matching metric meets the matching threshold -/
theorem reported_values_meet_threshold (cfg : Config) (bits : Nat) (s : List Nat) (pred ref : Flat) (mc : MatcherCfg)
    (hin : cfg.input = .UNMATCHED) (hm : cfg.matcher = some mc)
    (hk : mc.kind = .naive false ∨ mc.kind = .merge)
    (hmm : mc.metric = .IOU ∨ mc.metric = .DSC) (ht : ∃ q, mc.thr = .exact q)
    (hlen : pred.length = ref.length) (hb : ∀ x ∈ pred ++ ref, x < 2 ^ 32 - 1)
    (hp : labelsOf pred ≠ []) (hr : labelsOf ref ≠ [])
    (out : PipeOut) (h : pipeline cfg bits ⟨s, pred⟩ ⟨s, ref⟩ = .ok out)
    (vals : List Score) (hv : (mc.metric, vals) ∈ out.lists) :
    ∀ v ∈ vals, beats Score.le mc.metric.decreasing v mc.thr = true := by
  obtain ⟨lm, hrun, _, _, _, _, hlists⟩ :=
    C01.pipeline_unmatched_values cfg bits s pred ref mc hin hm hlen hb hp hr out h
  rw [hlists] at hv
  obtain ⟨m1, _, heq⟩ := List.mem_map.1 hv
  simp only [Prod.mk.injEq] at heq
  obtain ⟨rfl, rfl⟩ := heq
  intro v hvm
  obtain ⟨r, hrm, rfl⟩ := List.mem_map.1 hvm
  have hcr : lm.containsRef r = true := (List.mem_filter.1 (List.mem_filter.1 hrm).1).2
  exact Threshold.matched_beats mc hk hmm ht ⟨s, pred⟩ ⟨s, ref⟩ lm hrun r hcr

/-- semantic input: what is reported is the closed form of `pipeline_unmatched_values` for the connected
    components of the two maps under the configured / default backend -/
theorem pipeline_semantic_values (cfg : Config) (bits : Nat) (s : List Nat) (pred ref : Flat) (mc : MatcherCfg)
    (hin : cfg.input = .SEMANTIC) (hm : cfg.matcher = some mc)
    (hp : labelsOf pred ≠ []) (hr : labelsOf ref ≠ [])
    (P R : Flat)
    (hP : P = (connectedComponents (cfg.backend.getD (defaultBackend s.length)) ⟨s, pred⟩).1.data)
    (hR : R = (connectedComponents (cfg.backend.getD (defaultBackend s.length)) ⟨s, ref⟩).1.data)
    (hnp : (connectedComponents (cfg.backend.getD (defaultBackend s.length)) ⟨s, pred⟩).2 ≠ 0)
    (hnr : (connectedComponents (cfg.backend.getD (defaultBackend s.length)) ⟨s, ref⟩).2 ≠ 0)
    (hlen : P.length = R.length) (hb : ∀ x ∈ P ++ R, x < 2 ^ 32 - 1)
    (hP0 : labelsOf P ≠ []) (hR0 : labelsOf R ≠ [])
    (out : PipeOut) (h : pipeline cfg bits ⟨s, pred⟩ ⟨s, ref⟩ = .ok out) :
    ∃ lm, runMatcher mc ⟨s, P⟩ ⟨s, R⟩ = .ok lm ∧ out.lmap = some lm ∧
      out.matchedPred = some (mapped lm P R) ∧
      (let score := fun (m : Metric) (r : Lab) => metricOn m ⟨s, P⟩ ⟨s, R⟩ r (lm.predsOf r)
       let matched := (labelsOf R).filter (fun r => lm.containsRef r)
       let passing := matched.filter (fun r =>
         passesDecision Score.le cfg.decision (cfg.evalMetrics.map (fun m => (m, score m r))))
       out.tp = passing.length ∧
       out.lists = cfg.evalMetrics.map (fun m => (m, passing.map (score m)))) := by
  rcases SemanticE2E.pipeline_semantic_cases cfg bits ⟨s, pred⟩ ⟨s, ref⟩ hin _ rfl rfl with
    ⟨h0, _⟩ | ⟨_, _, bits', hU⟩
  · exact absurd h0 (not_or.2 ⟨hnp, hnr⟩)
  · rw [hU, ← hP, ← hR] at h
    obtain ⟨lm, h1, h2, h3, _, h4⟩ :=
      C01.pipeline_unmatched_values { cfg with input := .UNMATCHED } bits' s P R mc rfl hm hlen hb hP0 hR0 out h
    exact ⟨lm, h1, h2, h3, h4⟩

end Panoptica.C01
