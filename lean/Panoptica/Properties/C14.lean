/-
  C14 — the merge matcher only merges when it improves the match.
  For an arbitrary score type with total preorder `le`, both directions, every threshold, every
  candidate list and every combined-score function `comb`.
-/
import Panoptica.Proofs.Merge
namespace Panoptica.C14
open Panoptica

variable {S : Type} (le : S → S → Bool) (dec : Bool) (thr : S) (comb : Lab → List Lab → S)

/-- "at least as good" in the metric's preferred direction -/
def betterEqS (a b : S) : Bool := if dec then le a b else le b a

/-- every predicted instance is assigned to at most one reference -/
theorem merge_functional (cs : List (Cand S)) :
    ((mergeLoop le dec thr comb cs).lmap.map (·.1)).Nodup :=
  (mergeLoop_inv' le dec thr comb cs).keys

/-- the score table is defined exactly on the matched references (so the `score_ref[ref_label]`
    lookup of the loop never fails) -/
theorem scores_defined (cs : List (Cand S)) (r : Lab) :
    ((mergeLoop le dec thr comb cs).scores.get? r).isSome = (mergeLoop le dec thr comb cs).lmap.containsRef r :=
  (mergeLoop_inv' le dec thr comb cs).defined r

/-- a reference is matched only if some single prediction meets the threshold on its own:
    the first prediction assigned to it (the founder) is a candidate whose own score meets the threshold -/
theorem founder_eligible (cs : List (Cand S)) (r : Lab)
    (h : (mergeLoop le dec thr comb cs).lmap.containsRef r = true) :
    ∃ c ∈ cs, c.ref = r ∧ beats le dec c.score thr = true ∧
      ((mergeLoop le dec thr comb cs).lmap.predsOf r).head? = some c.pred := by
  have hinv := mergeLoop_inv' le dec thr comb cs
  obtain ⟨x, hx⟩ := Option.isSome_iff_exists.1 ((hinv.defined r).trans h)
  obtain ⟨c, hc, h1, h2, h3, _⟩ := hinv.founder r x hx
  exact ⟨c, hc, h1, h2, h3⟩

/-- one step: a further prediction is merged into an already matched reference only if the combined
    score is strictly better, in the metric's direction, than the score recorded before; the
    recorded score then becomes the combined score -/
theorem merge_strict (st : MergeState S) (c : Cand S)
    (hp : st.lmap.containsPred c.pred = false) (hr : st.lmap.containsRef c.ref = true)
    (hchg : (mergeStep le dec thr comb st c).lmap ≠ st.lmap) :
    ∃ old, st.scores.get? c.ref = some old ∧
      strictlyBetter le dec (comb c.ref (st.lmap.predsOf c.ref ++ [c.pred])) old = true ∧
      (mergeStep le dec thr comb st c).lmap = st.lmap ++ [(c.pred, c.ref)] ∧
      (mergeStep le dec thr comb st c).scores.get? c.ref = some (comb c.ref (st.lmap.predsOf c.ref ++ [c.pred])) := by
  rcases mergeStep_cases le dec thr comb st c with ⟨e, _⟩ | ⟨_, x, e, ⟨hr', _⟩ | ⟨_, old, ho, rfl, hsb⟩⟩
  · exact absurd (by rw [e]) hchg
  · rw [hr] at hr'; cases hr'
  · exact ⟨old, ho, hsb, by rw [e], by rw [e]; simp [ScoreRef.get?_set]⟩

/-- one step: nothing else ever changes the assignment — a step either leaves the state alone,
    founds a new reference with an eligible candidate, or is a strict-improvement merge -/
theorem step_cases (st : MergeState S) (c : Cand S) :
    mergeStep le dec thr comb st c = st ∨
    (st.lmap.containsPred c.pred = false ∧ st.lmap.containsRef c.ref = false ∧
       beats le dec c.score thr = true ∧
       (mergeStep le dec thr comb st c).lmap = st.lmap ++ [(c.pred, c.ref)]) ∨
    (st.lmap.containsPred c.pred = false ∧ st.lmap.containsRef c.ref = true ∧
       (mergeStep le dec thr comb st c).lmap = st.lmap ++ [(c.pred, c.ref)]) := by
  rcases mergeStep_cases le dec thr comb st c with ⟨e, _⟩ | ⟨hp, x, e, ⟨hr, hb, _⟩ | ⟨hr, _⟩⟩
  · exact .inl e
  · exact .inr (.inl ⟨hp, hr, hb, by rw [e]⟩)
  · exact .inr (.inr ⟨hp, hr, by rw [e]⟩)

/-- bookkeeping invariant: when the candidates' own scores are consistent with `comb`
    (`score = comb ref [pred]`, as in the code where both come from the matching metric), the
    recorded score of every matched reference is the combined score of exactly the predictions
    assigned to it -/
theorem score_invariant (cs : List (Cand S)) (hcons : ∀ c ∈ cs, c.score = comb c.ref [c.pred])
    (r : Lab) (s : S) (h : (mergeLoop le dec thr comb cs).scores.get? r = some s) :
    s = comb r ((mergeLoop le dec thr comb cs).lmap.predsOf r) :=
  (mergeLoop_inv' le dec thr comb cs).score
    hcons r s h

/-- the final score of every matched reference meets the threshold -/
theorem final_meets_threshold
    (htrans : ∀ a b c, le a b = true → le b c = true → le a c = true)
    (cs : List (Cand S)) (r : Lab) (s : S)
    (h : (mergeLoop le dec thr comb cs).scores.get? r = some s) :
    beats le dec s thr = true := by
  obtain ⟨_, _, _, _, _, hq⟩ := (mergeLoop_inv le dec thr comb (fun _ x => beats le dec x thr = true) cs
    (fun _ _ hb => hb) (fun _ _ old hb hs => beats_trans' htrans (strictlyBetter_iff.1 hs).1 hb)).founder r s h
  exact hq

/-- the final score of every matched reference is at least as good as the own score of its founder,
    which (candidates being processed best-first) is its best single candidate -/
theorem final_at_least_founder
    (hrefl : ∀ a, le a a = true)
    (htrans : ∀ a b c, le a b = true → le b c = true → le a c = true)
    (cs : List (Cand S)) (r : Lab) (s : S)
    (h : (mergeLoop le dec thr comb cs).scores.get? r = some s) :
    ∃ c ∈ cs, c.ref = r ∧ ((mergeLoop le dec thr comb cs).lmap.predsOf r).head? = some c.pred ∧
      betterEqS le dec s c.score = true := by
  obtain ⟨c, hc, h1, _, h3, hq⟩ := (mergeLoop_inv le dec thr comb
    (fun c x => betterEqS le dec x c.score = true) cs
    (fun c _ _ => beats_refl hrefl _)
    (fun c _ old hb hs => beats_trans' htrans (strictlyBetter_iff.1 hs).1 hb)).founder r s h
  exact ⟨c, hc, h1, h3, hq⟩

/-- non-vacuity / regression: with a lower-is-better metric a fragment that makes the score worse
    (10 → 25) is rejected and one that improves it (10 → 7) is merged -/
example :
    (mergeLoop (fun (a b : Nat) => decide (a ≤ b)) true 12
      (fun _ ps => if ps == [1, 2] then 25 else if ps == [1, 3] then 7 else 99)
      [⟨10, 1, 1⟩, ⟨30, 1, 2⟩, ⟨40, 1, 3⟩]).lmap = [(1, 1), (3, 1)] := by decide

end Panoptica.C14
