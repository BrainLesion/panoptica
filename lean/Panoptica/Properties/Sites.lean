/-
  Link between the abstractions used by the semantic extraction obligations (Model/Sites.lean,
  Extracted/Sites.lean) and the model the property theorems are about.
-/
import Panoptica.Model.Sites
import Panoptica.Model.Matching
import Panoptica.Model.Evaluate
namespace Panoptica.Sites
open Panoptica

/-- a total `le` is recovered from the three-way comparison -/
theorem le_eq_ord3 {S : Type} (le : S → S → Bool) (htot : ∀ a b, le a b = true ∨ le b a = true) (s t : S) :
    le s t = (ord3 le s t != .gt) ∧ le t s = (ord3 le s t != .lt) := by
  unfold ord3
  rcases htot s t with h | h <;> cases hts : le t s <;> cases hst : le s t <;> simp_all

/-- `beats` only depends on how the score compares with the threshold -/
theorem beats_abs {S : Type} (le : S → S → Bool) (htot : ∀ a b, le a b = true ∨ le b a = true)
    (dec : Bool) (s t : S) : beats le dec s t = beatsAbs dec (ord3 le s t) := by
  rw [beats, beatsAbs, (le_eq_ord3 le htot s t).1, (le_eq_ord3 le htot s t).2]

/-- the scenario only depends on which counts are zero -/
theorem scenarioOf_abs (nPred nRef : Nat) :
    scenarioOf nPred nRef = scenarioOf (if nPred = 0 then 0 else 1) (if nRef = 0 then 0 else 1) := by
  unfold scenarioOf
  by_cases hp : nPred = 0 <;> by_cases hr : nRef = 0 <;> simp [hp, hr] <;> omega

/-- `MetricZeroTPEdgeCaseHandling.__call__` of the model, read through the abstraction -/
theorem call_abs (z : ZeroTP) (tp nPred nRef : Nat) :
    (z.call tp nPred nRef).1 = (tp == 0) ∧
    (tp = 0 → modelChain true (nPred == 0) (nRef == 0) = .scenario (scenarioName (scenarioOf nPred nRef))) := by
  constructor
  · unfold ZeroTP.call; by_cases h : tp = 0 <;> simp [h]
  · intro _
    unfold modelChain
    rw [scenarioOf_abs nPred nRef]
    by_cases hp : nPred = 0 <;> by_cases hr : nRef = 0 <;> simp [hp, hr]

/-! matcher loops -/

theorem LEnv.mem_all (v : LEnv) : v ∈ LEnv.all := by
  have hb : ∀ b : Bool, b ∈ [false, true] := by decide
  obtain ⟨cp, cr, m2o, b, dec, o⟩ := v
  simp only [LEnv.all, List.mem_flatMap, List.mem_map]
  exact ⟨cp, hb cp, cr, hb cr, m2o, hb m2o, b, hb b, dec, hb dec, o, o.mem_all, rfl⟩

/-- strict improvement only depends on how the new score compares with the old one -/
theorem strictlyBetter_abs {S : Type} (le : S → S → Bool) (htot : ∀ a b, le a b = true ∨ le b a = true)
    (dec : Bool) (new old : S) : strictlyBetter le dec new old = strictlyBetterAbs dec (ord3 le new old) := by
  rw [strictlyBetter, strictlyBetterAbs, (le_eq_ord3 le htot new old).1, (le_eq_ord3 le htot new old).2]
  cases ord3 le new old <;> rfl

/-- the abstract situation of one iteration of the naive loop -/
def naiveEnv {S : Type} (le : S → S → Bool) (dec : Bool) (thr : S) (m2o : Bool) (m : LMap) (c : Cand S) : LEnv :=
  ⟨m.containsPred c.pred, m.containsRef c.ref, m2o, beats le dec c.score thr, dec, .eq⟩

/-- the model's `naiveStep` performs exactly the actions of `naiveAbs` -/
theorem naiveStep_abs {S : Type} (le : S → S → Bool) (dec : Bool) (thr : S) (m2o : Bool) (m : LMap) (c : Cand S) :
    naiveStep le dec thr m2o m c =
      (if LAct.add ∈ naiveAbs (naiveEnv le dec thr m2o m c) then m ++ [(c.pred, c.ref)] else m) := by
  unfold naiveStep naiveSkip naiveAbs naiveEnv
  cases m.containsPred c.pred <;> cases m.containsRef c.ref <;> cases m2o <;>
    cases beats le dec c.score thr <;> simp

/-- the abstract situation of one iteration of the merge loop (`old` = stored score of the reference) -/
def mergeEnv {S : Type} (le : S → S → Bool) (dec : Bool) (thr : S) (comb : Lab → List Lab → S)
    (st : MergeState S) (c : Cand S) (old : S) : LEnv :=
  ⟨st.lmap.containsPred c.pred, st.lmap.containsRef c.ref, true, beats le dec c.score thr, dec,
   ord3 le (comb c.ref (st.lmap.predsOf c.ref ++ [c.pred])) old⟩

def applyMerge {S : Type} (comb : Lab → List Lab → S) (st : MergeState S) (c : Cand S) : List LAct → MergeState S
  | [.add, .setNew] => { lmap := st.lmap ++ [(c.pred, c.ref)],
                         scores := st.scores.set c.ref (comb c.ref (st.lmap.predsOf c.ref ++ [c.pred])) }
  | [.add, .setMatch] => { lmap := st.lmap ++ [(c.pred, c.ref)], scores := st.scores.set c.ref c.score }
  | _ => st

/-- the model's `mergeStep` performs exactly the actions of `mergeAbs`; the stored score exists
    whenever the reference is assigned (invariant `scores_def` of C14) -/
theorem mergeStep_abs {S : Type} (le : S → S → Bool) (htot : ∀ a b, le a b = true ∨ le b a = true)
    (dec : Bool) (thr : S) (comb : Lab → List Lab → S) (st : MergeState S) (c : Cand S) (old : S)
    (hold : st.lmap.containsRef c.ref = true → st.scores.get? c.ref = some old) :
    mergeStep le dec thr comb st c = applyMerge comb st c (mergeAbs (mergeEnv le dec thr comb st c old)) := by
  unfold mergeStep mergeAbs mergeEnv
  cases hcp : st.lmap.containsPred c.pred
  · cases hcr : st.lmap.containsRef c.ref
    · cases hb : beats le dec c.score thr <;> simp [applyMerge]
    · simp only [hold hcr]
      rw [strictlyBetter_abs le htot]
      cases hs : strictlyBetterAbs dec (ord3 le (comb c.ref (st.lmap.predsOf c.ref ++ [c.pred])) old) <;>
        simp [applyMerge]
  · simp [applyMerge]

/-! decision loop -/

/-- does the instance's decision value beat the threshold (false when the value is missing) -/
def decisionBeats {V : Type} (le : V → V → Bool) (decision : Option (Metric × V)) (d : List (Metric × V)) : Bool :=
  match decision with
  | none => false
  | some (dm, thr) => match d.find? (fun e => e.1 == dm) with
    | some (_, v) => beats le dm.decreasing v thr
    | none => false

/-- the model's `passesDecision` is the extracted loop's guard: no decision metric, or threshold set
    and beaten (in the model metric and threshold come together, so "threshold set" = "metric set") -/
theorem passesDecision_abs {V : Type} (le : V → V → Bool) (decision : Option (Metric × V)) (d : List (Metric × V)) :
    passesDecision le decision d = (decision.isNone || (decision.isSome && decisionBeats le decision d)) := by
  unfold passesDecision decisionBeats
  cases decision with
  | none => simp
  | some p =>
    obtain ⟨dm, thr⟩ := p
    simp only [Option.isNone_some, Option.isSome_some, Bool.false_or, Bool.true_and]
    cases hf : d.find? (fun e => e.1 == dm) with
    | none => rfl
    | some q => rfl

end Panoptica.Sites
