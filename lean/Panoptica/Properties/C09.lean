/-
  C09 — results do not depend on label values, label order or integer dtype.
  (a) the pair encoding of the candidate discovery is exact for all labels below 2^32 (after the
  fix: 64-bit arithmetic), so the candidates are exactly the overlapping label pairs, whatever the
  label values; (b) every count the scores are built from is transported by injective relabelling;
  (c) the matcher's outcome is transported by relabelling the candidates; (d) the relabelling
  after matching does not depend on the dtype width (C04.relabel_pointwise).
-/
import Panoptica.Proofs.Overlap
namespace Panoptica.C09
open Panoptica

/-! ### (a) candidate discovery -/

/-- the encoding is injective on label pairs below 2^32 -/
theorem encode_injective (maxRef p p' r r' : Nat) (hm : maxRef ≤ 2 ^ 32)
    (hp : p < 2 ^ 32) (hp' : p' < 2 ^ 32) (hr : r < maxRef) (hr' : r' < maxRef)
    (h : ((p % twoPow64) * maxRef + r) % twoPow64 = ((p' % twoPow64) * maxRef + r') % twoPow64) :
    p = p' ∧ r = r' := by
  have e1 := encode_exact maxRef p r hm hp hr
  have e2 := encode_exact maxRef p' r' hm hp' hr'
  rw [e1, e2] at h
  exact encode_inj maxRef p p' r r' hr hr' h

/-- `_calc_overlapping_labels` returns exactly the pairs of non-zero labels that share a voxel,
    for every label value below 2^32 (near a dtype maximum, beyond 2^16, ...) -/
theorem overlapPairs_spec (pred ref : Flat) (hlen : pred.length = ref.length)
    (hp : ∀ x ∈ pred, x < 2 ^ 32) (hr : ∀ x ∈ ref, x < 2 ^ 32 - 1) (r p : Lab) :
    (r, p) ∈ overlapPairs pred ref (labelsOf ref) ↔ (r ≠ 0 ∧ p ≠ 0 ∧ overlaps pred ref r p = true) := by
  have _ := hlen
  rw [mem_overlapPairs pred ref hp hr r p, overlaps_iff]

/-- no candidate pair is reported twice -/
theorem overlapPairs_nodup (pred ref : Flat) (hlen : pred.length = ref.length)
    (hp : ∀ x ∈ pred, x < 2 ^ 32) (hr : ∀ x ∈ ref, x < 2 ^ 32 - 1) :
    (overlapPairs pred ref (labelsOf ref)).Nodup := by
  have _ := hlen; have _ := hp; have _ := hr
  exact overlapPairsM_nodup _ pred ref _

/-- regression (repaired defect): in 32-bit arithmetic the pair (70000, 70000) decoded to a wrong
    pair; in 64-bit arithmetic it is found -/
example : overlapPairsM (2 ^ 32) [70000] [70000] [70000] ≠ [(70000, 70000)] ∧
          overlapPairs [70000] [70000] [70000] = [(70000, 70000)] := by
  constructor <;> decide

/-- an injective renaming of the labels occurring in `a` that keeps the background -/
structure Renaming (σ : Lab → Lab) (a : Flat) : Prop where
  zero : σ 0 = 0
  nonzero : ∀ x ∈ a, x ≠ 0 → σ x ≠ 0
  inj : ∀ x ∈ a, ∀ y ∈ a, σ x = σ y → x = y

/-! ### (b) counts are transported by injective relabelling -/

theorem ovCount_relabel (σ τ : Lab → Lab) (pred ref : Flat)
    (hσ : ∀ a ∈ pred, ∀ b ∈ pred, σ a = σ b → a = b) (hτ : ∀ a ∈ ref, ∀ b ∈ ref, τ a = τ b → a = b)
    (r p : Lab) (hr : r ∈ ref) (hp : p ∈ pred) :
    ovCount (pred.map σ) (ref.map τ) (τ r) (σ p) = ovCount pred ref r p := by
  exact ovCount_map σ τ pred ref r p (fun a ha h => hσ a ha p hp h) (fun b hb h => hτ b hb r hr h)

theorem cnt_relabel (σ : Lab → Lab) (a : Flat) (hσ : ∀ x ∈ a, ∀ y ∈ a, σ x = σ y → x = y)
    (l : Lab) (hl : l ∈ a) : cnt (a.map σ) (σ l) = cnt a l := by
  exact cnt_map σ a l (fun x hx h => hσ x hx l hl h)

/-- the selected masks, hence IoU / Dice / RVD of a pair of instances, are unchanged -/
theorem selRef_relabel (τ : Lab → Lab) (ref : Flat) (hτ : ∀ a ∈ ref, ∀ b ∈ ref, τ a = τ b → a = b)
    (r : Lab) (hr : r ∈ ref) : selRef (ref.map τ) (τ r) = selRef ref r := by
  simp only [selRef, List.map_map]
  apply List.map_congr_left
  intro x hx
  simp only [Function.comp_apply]
  by_cases h : x = r
  · simp [h]
  · have h' : τ x ≠ τ r := fun e => h (hτ x hx r hr e)
    simp [h, h']

theorem selPred_relabel (σ : Lab → Lab) (pred : Flat) (hσ : ∀ a ∈ pred, ∀ b ∈ pred, σ a = σ b → a = b)
    (ps : List Lab) (hps : ∀ p ∈ ps, p ∈ pred) : selPred (pred.map σ) (ps.map σ) = selPred pred ps := by
  simp only [selPred, List.map_map]
  apply List.map_congr_left
  intro x hx
  simp only [Function.comp_apply]
  rw [Bool.eq_iff_iff, List.contains_iff_mem, List.contains_iff_mem, List.mem_map]
  constructor
  · rintro ⟨y, hy, h⟩
    have := hσ y (hps y hy) x hx h
    rw [← this]; exact hy
  · intro h
    exact ⟨x, h, rfl⟩

/-! ### (c) the matcher commutes with relabelling of the candidates -/

/-- relabel a candidate -/
def relabelCand {S : Type} (σ τ : Lab → Lab) (c : Cand S) : Cand S := { c with ref := τ c.ref, pred := σ c.pred }

/-- with the same candidate order (which the best-first sort fixes up to ties) the threshold
    matcher returns the relabelled assignment -/
theorem naive_relabel {S : Type} (le : S → S → Bool) (dec : Bool) (thr : S) (m2o : Bool)
    (σ τ : Lab → Lab) (cs : List (Cand S))
    (hσ : ∀ a ∈ cs, ∀ b ∈ cs, σ a.pred = σ b.pred → a.pred = b.pred)
    (hτ : ∀ a ∈ cs, ∀ b ∈ cs, τ a.ref = τ b.ref → a.ref = b.ref) :
    naiveLoop le dec thr m2o (cs.map (relabelCand σ τ)) =
      (naiveLoop le dec thr m2o cs).map (fun e => (σ e.1, τ e.2)) := by
  have h := naiveFold_relabel le dec thr m2o σ τ (fun x => ∃ a ∈ cs, a.pred = x)
    (fun x => ∃ a ∈ cs, a.ref = x)
    (by
      rintro a b ⟨ca, hca, rfl⟩ ⟨cb, hcb, rfl⟩ h
      exact hσ ca hca cb hcb h)
    (by
      rintro a b ⟨ca, hca, rfl⟩ ⟨cb, hcb, rfl⟩ h
      exact hτ ca hca cb hcb h)
    cs (fun c hc => ⟨⟨c, hc, rfl⟩, ⟨c, hc, rfl⟩⟩) [] (by simp)
  exact h

end Panoptica.C09
