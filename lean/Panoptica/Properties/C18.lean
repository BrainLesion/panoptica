/-
  C18 — what the aggregator writes is what the statistics loader reads.
  For any number of groups with arbitrary names (incl. '-', '_', spaces), any subject names, any
  selection of metric keys without '-', any result values incl. NaN/inf/None/absent.
-/
import Panoptica.Proofs.Table
namespace Panoptica.C18
open Panoptica.Tbl

/-- a header cell splits back into exactly its group and metric, whatever the group name contains -/
theorem rsplit_headerCell (g m : Str) (hm : '-' ∉ m) : rsplitDash (headerCell g m) = (g, m) := by
  exact rsplitDash_headerCell g m hm

/-- the loader recovers the (group, metric) key of every column, in order -/
theorem header_roundtrip {F : Type} (groups keys : List Str) (hk : ∀ m ∈ keys, '-' ∉ m)
    (rows : List (Str × List (Option (WVal F)))) :
    (load (mkHeader groups keys) rows).keys = groups.flatMap (fun g => keys.map (fun m => (g, m))) := by
  exact keys_mkHeader groups keys hk rows

/-- the metric identifiers a result can expose contain no '-' -/
def metricKeys : List Str :=
  ["num_ref_instances", "num_pred_instances", "tp", "fp", "fn", "prec", "rec", "rq", "sq", "sq_std", "pq",
   "sq_dsc", "sq_dsc_std", "pq_dsc", "sq_cldsc", "sq_cldsc_std", "pq_cldsc", "sq_assd", "sq_assd_std",
   "sq_rvd", "sq_rvd_std", "global_bin_dsc", "global_bin_iou", "global_bin_assd", "global_bin_cldsc",
   "global_bin_rvd", "computation_time"].map String.toList

theorem metricKeys_no_dash : ∀ m ∈ metricKeys, '-' ∉ m := by
  decide +kernel

/-- only finite values survive; NaN, ±inf, None and uncomputed (absent) values are missing -/
theorem classify_spec {F : Type} (x : F) :
    classify (some (WVal.fin x)) = some x ∧ classify (some (WVal.nan : WVal F)) = none ∧
    classify (some (WVal.inf : WVal F)) = none ∧ classify (some (WVal.ninf : WVal F)) = none ∧
    classify (some (WVal.none : WVal F)) = none ∧ classify (Option.none : Option (WVal F)) = none := by
  exact ⟨rfl, rfl, rfl, rfl, rfl, rfl⟩

/-- alignment: every value a result reports for subject `s`, group `g`, metric `m` is recovered under
    exactly that subject, group and metric (missing iff not finite); no value is attributed to
    another group or metric -/
theorem aligned {F : Type} (groups keys subjects : List Str) (res : Str → Str → Str → Option (WVal F))
    (hg : groups.Nodup) (hkn : keys.Nodup) (hk : ∀ m ∈ keys, '-' ∉ m) (hs : subjects.Nodup)
    (s g m : Str) (hsm : s ∈ subjects) (hgm : g ∈ groups) (hmm : m ∈ keys) :
    (load (mkHeader groups keys) (subjects.map (fun s => mkRow groups keys s (res s)))).get s g m
      = some (classify (res s g m)) := by
  -- the Nodup hypotheses are not needed: lookups take the first matching index
  have _ := And.intro hg (And.intro hkn hs)
  exact get_aligned groups keys subjects res hk s g m hsm hgm hmm

/-- every row has one cell per header column -/
theorem row_width {F : Type} (groups keys : List Str) (s : Str) (res : Str → Str → Option (WVal F)) :
    (mkRow groups keys s res).2.length + 1 = (mkHeader groups keys).length := by
  simp only [mkRow, mkHeader, List.length_cons]
  rw [length_row groups keys res (fun g m => headerCell g m)]

/-- non-vacuity / regression (repaired defect: the loader used to split on every '-') -/
example : rsplitDash "my-grp-sq_dsc".toList = ("my-grp".toList, "sq_dsc".toList) := by decide

end Panoptica.C18
