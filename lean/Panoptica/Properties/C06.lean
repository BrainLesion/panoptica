/-
  C06 — Dice, IoU, RVD and clDice equal their set-theoretic definitions.
  `X`, `Y` are indicator lists of the selected voxel sets (what `_Metric.__call__` builds with
  `== ref_idx` / `np.isin(·, pred_idx)`); `maskVals` is their numeric view handed to the metric.
-/
import Panoptica.Proofs.Metrics
namespace Panoptica.C06
open Panoptica Panoptica.Spec

/-! ### the counts the code computes are the set cardinalities -/

theorem sum_mask (X : List Bool) : sumVals (maskVals X) = card X := by
  exact sumVals_maskVals X

theorem inter_mask (X Y : List Bool) : interCount (maskVals X) (maskVals Y) = cardInter X Y := by
  exact interCount_maskVals X Y

theorem union_mask (X Y : List Bool) : unionCount (maskVals X) (maskVals Y) = cardUnion X Y := by
  exact unionCount_maskVals X Y

/-- inclusion–exclusion on positions -/
theorem incl_excl (X Y : List Bool) (hlen : X.length = Y.length) :
    card X + card Y = cardInter X Y + cardUnion X Y := by
  exact card_incl_excl X Y hlen

/-! ### the definitions -/

/-- Dice = 2|X∩Y| / (|X|+|Y|), and 0 when both masks are empty (the code's guard) -/
theorem dice_def (X Y : List Bool) :
    dice (maskVals X) (maskVals Y) =
      if card X + card Y = 0 then 0 else (2 * (cardInter X Y : Rat)) / ((card X : Rat) + (card Y : Rat)) := by
  simp only [dice, sumVals_maskVals, interCount_maskVals]
  by_cases h : card X + card Y = 0
  · have h1 : card X = 0 := by omega
    have h2 : card Y = 0 := by omega
    simp [h1, h2]
  · have h' : ¬ (card X = 0 ∧ card Y = 0) := by omega
    simp [h', Nat.cast_add]

/-- IoU = |X∩Y| / |X∪Y|, and 0 when the union is empty (the code's guard) -/
theorem iou_def (X Y : List Bool) :
    iou (maskVals X) (maskVals Y) =
      if cardUnion X Y = 0 then 0 else (cardInter X Y : Rat) / (cardUnion X Y : Rat) := by
  simp only [iou, unionCount_maskVals, interCount_maskVals]
  by_cases h : cardUnion X Y = 0 <;> simp [h]

/-- RVD = (|pred| - |ref|) / |ref| wherever the quotient is defined -/
theorem rvd_def (X Y : List Bool) (href : card X ≠ 0) :
    rvd (maskVals X) (maskVals Y) = .ok (((card Y : Rat) - (card X : Rat)) / (card X : Rat)) := by
  simp only [rvd, sumVals_maskVals]
  simp [href]

/-- the code's behaviour where the quotient is undefined: 0 for two empty masks, an error for an
    empty reference with a non-empty prediction -/
theorem rvd_undefined (X Y : List Bool) (href : card X = 0) :
    rvd (maskVals X) (maskVals Y) = if card Y = 0 then .ok 0 else .error "ZeroDivisionError" := by
  simp only [rvd, sumVals_maskVals]
  by_cases h : card Y = 0 <;> simp [href, h]

/-! ### selection: a list of prediction labels means their union -/

theorem selPred_single (a : Flat) (p : Lab) : selPred a [p] = selRef a p := by
  exact Panoptica.selPred_single a p

theorem selPred_union (a : Flat) (ps qs : List Lab) :
    selPred a (ps ++ qs) = List.zipWith (· || ·) (selPred a ps) (selPred a qs) := by
  simp only [selPred, List.zipWith_map, List.zipWith_self]
  apply List.map_congr_left
  intro x _
  simp

theorem selPred_mem (a : Flat) (ps : List Lab) (i : Nat) (h : i < a.length) :
    (selPred a ps)[i]'(by simpa [selPred] using h) = true ↔ a[i] ∈ ps := by
  simp [selPred]

/-! ### consequences -/

theorem iou_symm (a b : Flat) : iou a b = iou b a := by
  simp only [iou, interCount_comm a b, unionCount_comm a b]

theorem dice_symm (a b : Flat) : dice a b = dice b a := by
  simp only [dice, interCount_comm a b, Nat.add_comm (sumVals a), Bool.and_comm (sumVals a == 0)]

theorem iou_unit (X Y : List Bool) :
    0 ≤ iou (maskVals X) (maskVals Y) ∧ iou (maskVals X) (maskVals Y) ≤ 1 := by
  rw [iou_eq]; exact natDiv_unit (cardInter_le_union X Y)

theorem dice_unit (X Y : List Bool) :
    0 ≤ dice (maskVals X) (maskVals Y) ∧ dice (maskVals X) (maskVals Y) ≤ 1 := by
  rw [dice_eq]
  exact natDiv_unit (by have := cardInter_le_left X Y; have := cardInter_le_right X Y; omega)

/-- Dice ≥ IoU (used for `sq_dsc ≥ sq` in C02) -/
theorem iou_le_dice (X Y : List Bool) (hlen : X.length = Y.length) :
    iou (maskVals X) (maskVals Y) ≤ dice (maskVals X) (maskVals Y) := by
  have hie := card_incl_excl X Y hlen
  have hIU := cardInter_le_union X Y
  rw [iou_eq, dice_eq, hie]
  rcases Nat.eq_zero_or_pos (cardUnion X Y) with hU | hU
  · simp [hU, show cardInter X Y = 0 by omega]
  · -- I·(I+U) ≤ 2I·U because I ≤ U
    refine natDiv_le_natDiv hU (by omega) ?_
    have := Nat.mul_le_mul_left (cardInter X Y) hIU
    rw [Nat.mul_add, Nat.mul_assoc, Nat.two_mul]; omega

/-- IoU = 1 exactly for identical non-empty masks -/
theorem iou_eq_one_iff (X Y : List Bool) (hlen : X.length = Y.length) :
    iou (maskVals X) (maskVals Y) = 1 ↔ (X = Y ∧ 0 < card X) := by
  rw [iou_eq, natDiv_eq_one_iff]
  constructor
  · rintro ⟨h, hpos⟩
    obtain rfl := eq_of_cardInter_eq_cardUnion X Y hlen h
    exact ⟨rfl, by rwa [cardUnion_self] at hpos⟩
  · rintro ⟨rfl, hpos⟩
    rw [cardUnion_self, cardInter_self]; exact ⟨rfl, hpos⟩

/-- Dice = 1 exactly for identical non-empty masks -/
theorem dice_eq_one_iff (X Y : List Bool) (hlen : X.length = Y.length) :
    dice (maskVals X) (maskVals Y) = 1 ↔ (X = Y ∧ 0 < card X) := by
  have hie := card_incl_excl X Y hlen
  have hIU := cardInter_le_union X Y
  rw [dice_eq, natDiv_eq_one_iff]
  constructor
  · rintro ⟨h, hpos⟩
    obtain rfl := eq_of_cardInter_eq_cardUnion X Y hlen (by omega)
    exact ⟨rfl, by omega⟩
  · rintro ⟨rfl, hpos⟩
    rw [cardInter_self]; omega

/-- Dice = 2·IoU / (1 + IoU) whenever the union is non-empty -/
theorem dice_iou (X Y : List Bool) (hlen : X.length = Y.length) (hpos : 0 < cardUnion X Y) :
    dice (maskVals X) (maskVals Y) =
      2 * iou (maskVals X) (maskVals Y) / (1 + iou (maskVals X) (maskVals Y)) := by
  rw [iou_eq, dice_eq, card_incl_excl X Y hlen]
  have hU : (cardUnion X Y : Rat) ≠ 0 := Nat.cast_ne_zero.2 (by omega)
  have hIU : (cardUnion X Y : Rat) + (cardInter X Y : Rat) ≠ 0 := by positivity
  push_cast
  field_simp
  ring

/-- clDice is the harmonic mean of the two skeleton coverages (skeletons are parameters) -/
theorem cldice_harmonic (ref pred skelRef skelPred : Flat) (tp ts : Rat)
    (h1 : clScore pred skelRef = some tp) (h2 : clScore ref skelPred = some ts) (h3 : tp + ts ≠ 0) :
    clDice ref pred skelRef skelPred = some (2 * tp * ts / (tp + ts)) := by
  simp only [clDice, h1, h2]
  simp [h3]

/-- skeleton coverage = |V ∩ skel| / |skel| -/
theorem clScore_def (V Sk : List Bool) (h : card Sk ≠ 0) :
    clScore (maskVals V) (maskVals Sk) = some ((cardInter V Sk : Rat) / (card Sk : Rat)) := by
  simp only [clScore, sumVals_maskVals, interCount_maskVals]
  simp [h]

/-- non-vacuity: X = {0,1,2}, Y = {1,2,3} over 5 positions: IoU 2/4, Dice 4/6 -/
example : cardInter [true, true, true, false, false] [false, true, true, true, false] = 2 ∧
          cardUnion [true, true, true, false, false] [false, true, true, true, false] = 4 := by decide

end Panoptica.C06
