/- helper lemmas for Properties/C01Values.lean -/
import Panoptica.Properties.C04
import Panoptica.Properties.C03
import Panoptica.Properties.C14
import Panoptica.Properties.C09
import Panoptica.Properties.C01
namespace Panoptica
namespace Values

/-- the `GoodMap` hypotheses (unbundled copy usable by the helper lemmas) -/
structure Good (lm : LMap) (pred ref : Flat) : Prop where
  keys : ∀ e ∈ lm, e.1 ∈ labelsOf pred
  vals : ∀ e ∈ lm, e.2 ∈ labelsOf ref
  functional : ∀ e ∈ lm, ∀ e' ∈ lm, e.1 = e'.1 → e.2 = e'.2

/-- the label renaming of the relabelling step -/
abbrev rf (lm : LMap) (pred ref : Flat) : Lab → Lab :=
  C04.relabelFn lm (labelsOf ref) (labelsOf pred)

/-! ### label map facts -/

theorem lookup_some_mem (lm : LMap) (p r : Lab) (h : lm.lookup p = some r) : (p, r) ∈ lm :=
  LMap.mem_of_lookup h

theorem mem_predsOf (lm : LMap) (r x : Lab) : x ∈ lm.predsOf r ↔ (x, r) ∈ lm :=
  LMap.mem_predsOf

theorem containsRef_eq_true (lm : LMap) (r : Lab) :
    lm.containsRef r = true ↔ ∃ e ∈ lm, e.2 = r := by
  simp [LMap.containsRef]

variable {lm : LMap} {pred ref : Flat}

theorem lookup_of_mem (hg : Good lm pred ref) (e : Lab × Lab) (he : e ∈ lm) :
    lm.lookup e.1 = some e.2 :=
  (LMap.lookup_eq_some fun h1 h2 => hg.functional _ h1 _ h2 rfl).2 he

theorem rf_zero (hg : Good lm pred ref) : rf lm pred ref 0 = 0 :=
  C04.background_kept lm _ _ (fun e he => ((mem_labelsOf pred _).1 (hg.keys e he)).2)
    (fun p hp => ((mem_labelsOf pred p).1 hp).2)

theorem rf_eq_zero_iff (hg : Good lm pred ref) (x : Lab) (hx : x ∈ pred) : rf lm pred ref x = 0 ↔ x = 0 :=
  ⟨fun h => Classical.byContradiction fun hx0 =>
      C04.foreground_kept lm _ _ (fun e he => ((mem_labelsOf ref _).1 (hg.vals e he)).2) x
        ((mem_labelsOf pred x).2 ⟨hx, hx0⟩) h,
   fun h => h ▸ rf_zero hg⟩

theorem rf_mem (hg : Good lm pred ref) (e : Lab × Lab) (he : e ∈ lm) :
    rf lm pred ref e.1 = e.2 :=
  C04.matched_label lm _ _ e.1 e.2 (lookup_of_mem hg e he)

theorem rf_unmatched (x : Lab) (hx : x ∈ labelsOf pred) (hun : ∀ e ∈ lm, e.1 ≠ x) :
    rf lm pred ref x ∉ labelsOf ref :=
  (C04.fresh_outside_ref lm (labelsOf ref) (labelsOf pred) x hx
    (LMap.containsPred_eq_false.2 fun r h => hun _ h rfl)).2

/-- pointwise characterisation of the renaming on the values of the prediction array -/
theorem rf_eq_iff (hg : Good lm pred ref) (r : Lab) (hr : r ∈ labelsOf ref) (x : Lab) (hx : x ∈ pred) :
    rf lm pred ref x = r ↔ (x, r) ∈ lm := by
  have hr0 : r ≠ 0 := ((mem_labelsOf ref r).1 hr).2
  by_cases hx0 : x = 0
  · subst hx0
    rw [rf_zero hg]
    constructor
    · intro h; exact absurd h.symm hr0
    · intro h
      exact absurd rfl ((mem_labelsOf pred _).1 (hg.keys _ h)).2
  · have hxl : x ∈ labelsOf pred := (mem_labelsOf pred x).2 ⟨hx, hx0⟩
    by_cases hk : ∃ e ∈ lm, e.1 = x
    · obtain ⟨e, he, rfl⟩ := hk
      rw [rf_mem hg e he]
      constructor
      · intro h; rw [← h]; exact he
      · intro h; exact (hg.functional (e.1, r) h e he rfl).symm
    · have hun : ∀ e ∈ lm, e.1 ≠ x := fun e he h => hk ⟨e, he, h⟩
      have hout := rf_unmatched (lm := lm) (ref := ref) x hxl hun
      constructor
      · intro h; rw [h] at hout; exact absurd hr hout
      · intro h; exact absurd rfl (hun _ h)

theorem contains_rf (hg : Good lm pred ref) (r : Lab) (hr : r ∈ labelsOf ref) (x : Lab) (hx : x ∈ pred) :
    [r].contains (rf lm pred ref x) = (lm.predsOf r).contains x := by
  rw [Bool.eq_iff_iff, List.contains_iff_mem, List.contains_iff_mem, List.mem_singleton,
    mem_predsOf]
  exact rf_eq_iff hg r hr x hx

theorem selPred_map_rf (hg : Good lm pred ref) (r : Lab) (hr : r ∈ labelsOf ref) :
    selPred (pred.map (rf lm pred ref)) [r] = selPred pred (lm.predsOf r) := by
  simp only [selPred, List.map_map]
  apply List.map_congr_left
  intro x hx
  exact contains_rf hg r hr x hx

/-! ### a metric value depends on arrays and labels only through the two selected masks -/

theorem coordsWhere_eq_mask (s : List Nat) (a : Flat) (p : Lab → Bool) :
    coordsWhere ⟨s, a⟩ p = (((allCoords s).zip (a.map p)).filter (·.2)).map (·.1) := by
  simp only [coordsWhere, Arr.voxels, List.zip_map_right, List.filter_map, List.map_map]
  rfl

theorem metricOn_congr_sel (m : Metric) (s : List Nat) {pred pred' ref ref' : Flat} {r r' : Lab}
    {ps ps' : List Lab} (hR : selRef ref' r' = selRef ref r) (hP : selPred pred' ps' = selPred pred ps) :
    metricOn m ⟨s, pred'⟩ ⟨s, ref'⟩ r' ps' = metricOn m ⟨s, pred⟩ ⟨s, ref⟩ r ps := by
  cases m with
  | IOU => simp only [metricOn, iouSel, selectPair, hR, hP]
  | DSC => simp only [metricOn, diceSel, selectPair, hR, hP]
  | RVD => simp only [metricOn, rvdSel, selectPair, hR, hP]
  | clDSC => rfl
  | ASSD =>
    simp only [selRef, selPred] at hR hP
    simp only [metricOn, coordsWhere_eq_mask, hR, hP]

theorem metricOn_map_rf (m : Metric) (s : List Nat) (hg : Good lm pred ref) (r : Lab)
    (hr : r ∈ labelsOf ref) :
    metricOn m ⟨s, pred.map (rf lm pred ref)⟩ ⟨s, ref⟩ r [r] =
      metricOn m ⟨s, pred⟩ ⟨s, ref⟩ r (lm.predsOf r) :=
  metricOn_congr_sel m s rfl (selPred_map_rf hg r hr)

/-! ### matched instances -/

theorem sorted_filter (p : Nat → Bool) (l : List Nat) (h : l.Pairwise (· < ·)) :
    (l.filter p).Pairwise (· < ·) := h.filter p

theorem labelsOf_sorted (a : Flat) : (labelsOf a).Pairwise (· < ·) := uniqueSorted_sorted _

theorem matchedInstances_map_rf (hg : Good lm pred ref) :
    matchedInstances (pred.map (rf lm pred ref)) ref =
      (labelsOf ref).filter (fun r => lm.containsRef r) := by
  unfold matchedInstances
  apply sorted_ext _ _ (sorted_filter _ _ (labelsOf_sorted _)) (sorted_filter _ _ (labelsOf_sorted _))
  intro x
  rw [List.mem_filter, List.mem_filter, List.contains_iff_mem, containsRef_eq_true, mem_labelsOf,
    List.mem_map]
  constructor
  · rintro ⟨⟨⟨y, hy, hyx⟩, _⟩, hxr⟩
    refine ⟨hxr, (y, x), ?_, rfl⟩
    exact (rf_eq_iff hg x hxr y hy).1 hyx
  · rintro ⟨hxr, e, he, rfl⟩
    have hk := (mem_labelsOf pred _).1 (hg.keys e he)
    refine ⟨⟨⟨e.1, hk.1, rf_mem hg e he⟩, ((mem_labelsOf ref _).1 hxr).2⟩, hxr⟩

/-! ### both matchers produce a good map -/

theorem nodup_fst_functional (lm : LMap) (h : (lm.map (·.1)).Nodup) :
    ∀ e ∈ lm, ∀ e' ∈ lm, e.1 = e'.1 → e.2 = e'.2 :=
  fun e he e' he' hk => congrArg Prod.snd (inj_of_nodup_map (·.1) lm h e he e' he' hk)

/-- a candidate pair consists of non-zero labels present in the arrays -/
theorem cand_labels (metric : Metric) (pred ref : Arr) (hlen : pred.data.length = ref.data.length)
    (hbp : ∀ x ∈ pred.data, x < 2 ^ 32) (hbr : ∀ x ∈ ref.data, x < 2 ^ 32 - 1)
    (c : Cand Score) (hc : c ∈ sortBest Score.le metric.decreasing (scoredCands metric pred ref)) :
    c.pred ∈ labelsOf pred.data ∧ c.ref ∈ labelsOf ref.data := by
  have hc' : c ∈ scoredCands metric pred ref := by
    unfold sortBest at hc
    exact List.mem_mergeSort.1 hc
  obtain ⟨hr0, hp0, hov⟩ := (C01.scoredCands_spec metric pred ref hlen hbp hbr c.ref c.pred).1
    ⟨c, hc', rfl, rfl⟩
  have hz := List.of_mem_zip ((overlaps_iff pred.data ref.data c.ref c.pred).1 hov)
  exact ⟨(mem_labelsOf _ _).2 ⟨hz.1, hp0⟩, (mem_labelsOf _ _).2 ⟨hz.2, hr0⟩⟩

/-- what both matchers guarantee of their label map, whatever the kind: distinct keys, entries from candidates -/
theorem runMatcher_entries (mc : MatcherCfg) (pred ref : Arr) (lm : LMap) (h : runMatcher mc pred ref = .ok lm) :
    (lm.map (·.1)).Nodup ∧ ∀ e ∈ lm, ∃ c ∈ sortBest Score.le mc.metric.decreasing (scoredCands mc.metric pred ref),
      c.pred = e.1 ∧ c.ref = e.2 := by
  obtain ⟨kind, metric, thr⟩ := mc
  unfold runMatcher at h
  cases kind with
  | naive m2o =>
    simp only [C03.naive_total, Except.ok.injEq] at h
    subst h
    have hinv := naiveLoop_inv' Score.le metric.decreasing thr m2o
      (sortBest Score.le metric.decreasing (scoredCands metric pred ref))
    exact ⟨hinv.functional, fun e he => (hinv.sound e he).imp fun c hc => ⟨hc.1, hc.2.1, hc.2.2.1⟩⟩
  | merge =>
    simp only [Except.ok.injEq] at h
    subst h
    have hinv := mergeLoop_inv' Score.le metric.decreasing thr (fun r ps => metricOn metric pred ref r ps)
      (sortBest Score.le metric.decreasing (scoredCands metric pred ref))
    exact ⟨hinv.keys, hinv.entries⟩

theorem runMatcher_good (mc : MatcherCfg) (pred ref : Arr) (hlen : pred.data.length = ref.data.length)
    (hb : ∀ x ∈ pred.data ++ ref.data, x < 2 ^ 32 - 1)
    (lm : LMap) (h : runMatcher mc pred ref = .ok lm) : Good lm pred.data ref.data := by
  have hbp : ∀ x ∈ pred.data, x < 2 ^ 32 := fun x hx =>
    lt32_of_lt x (hb x (List.mem_append_left _ hx))
  have hbr : ∀ x ∈ ref.data, x < 2 ^ 32 - 1 := fun x hx => hb x (List.mem_append_right _ hx)
  obtain ⟨hnd, hs⟩ := runMatcher_entries mc pred ref lm h
  refine ⟨fun e he => ?_, fun e he => ?_, nodup_fst_functional _ hnd⟩
  · obtain ⟨c, hc, h1, _⟩ := hs e he
    rw [← h1]; exact (cand_labels mc.metric pred ref hlen hbp hbr c hc).1
  · obtain ⟨c, hc, _, h2⟩ := hs e he
    rw [← h2]; exact (cand_labels mc.metric pred ref hlen hbp hbr c hc).2

theorem runMatcher_total (mc : MatcherCfg) (pred ref : Arr) : ∃ lm, runMatcher mc pred ref = .ok lm := by
  obtain ⟨kind, metric, thr⟩ := mc
  unfold runMatcher
  cases kind with
  | naive m2o => exact ⟨_, C03.naive_total Score.le metric.decreasing thr m2o _⟩
  | merge => exact ⟨_, rfl⟩

/-! ### evaluation -/

theorem find?_map_key {V : Type} (f : Metric → V) (ms : List Metric) (m : Metric) (hm : m ∈ ms) :
    (ms.map (fun m => (m, f m))).find? (fun e => e.1 == m) = some (m, f m) := by
  induction ms with
  | nil => cases hm
  | cons a l ih =>
    rw [List.map_cons, List.find?_cons]
    by_cases ha : a = m
    · subst ha; simp
    · have : ((a, f a).1 == m) = false := by simpa using ha
      rw [this]
      rcases List.mem_cons.1 hm with h | h
      · exact absurd h.symm ha
      · exact ih h

/-- `evalMatched` on dictionaries built from a score function -/
theorem evalMatched_score {V : Type} (le : V → V → Bool) (ms : List Metric)
    (decision : Option (Metric × V)) (labels : List Lab) (score : Metric → Lab → V) :
    evalMatched le ms decision (labels.map (fun r => ms.map (fun m => (m, score m r)))) =
      ((labels.filter (fun r => passesDecision le decision (ms.map (fun m => (m, score m r))))).length,
       ms.map (fun m => (m, (labels.filter (fun r =>
          passesDecision le decision (ms.map (fun m => (m, score m r))))).map (score m)))) := by
  unfold evalMatched
  simp only [List.filter_map, List.length_map]
  congr 1
  apply List.map_congr_left
  intro m hm
  congr 1
  rw [List.filterMap_map]
  rw [← List.filterMap_eq_map]
  apply List.filterMap_congr
  intro r _
  simp only [Function.comp_apply]
  rw [find?_map_key (fun m => score m r) ms m hm]
  rfl

/-- the bound needed by the relabelling step -/
theorem bounded_of_good (hg : Good lm pred ref) (hb : ∀ x ∈ pred ++ ref, x < 2 ^ 32 - 1) :
    C04.Bounded pred lm (labelsOf ref) (labelsOf pred) := by
  have hbp : ∀ x ∈ pred, x < 2 ^ 32 - 1 := fun x hx => hb x (List.mem_append_left _ hx)
  have hbr : ∀ x ∈ ref, x < 2 ^ 32 - 1 := fun x hx => hb x (List.mem_append_right _ hx)
  have hmax := maxRef_bound ref hbr
  have hlenL := labelsOf_length_le pred (2 ^ 32) (fun x hx => lt32_of_lt x (hbp x hx))
  refine ⟨?_, ?_, ?_, ?_⟩
  · intro x hx
    exact lt64_of_lt x (hbp x hx)
  · intro e he
    exact ⟨lt64_of_lt _ (hbp _ ((mem_labelsOf pred _).1 (hg.keys e he)).1),
      lt64_of_lt _ (hbr _ ((mem_labelsOf ref _).1 (hg.vals e he)).1)⟩
  · intro q hq
    exact lt64_of_lt q (hbp q ((mem_labelsOf pred q).1 hq).1)
  · omega

theorem labelsOf_map_rf_ne_nil (hg : Good lm pred ref) (hp : labelsOf pred ≠ []) :
    labelsOf (pred.map (rf lm pred ref)) ≠ [] := by
  cases hl : labelsOf pred with
  | nil => exact absurd hl hp
  | cons p ps =>
    have hpm : p ∈ labelsOf pred := by rw [hl]; exact List.mem_cons_self ..
    have hne := C04.foreground_kept lm (labelsOf ref) (labelsOf pred)
      (fun e he => ((mem_labelsOf ref _).1 (hg.vals e he)).2) p hpm
    have : rf lm pred ref p ∈ labelsOf (pred.map (rf lm pred ref)) :=
      (mem_labelsOf _ _).2 ⟨List.mem_map.2 ⟨p, ((mem_labelsOf pred p).1 hpm).1, rfl⟩, hne⟩
    intro h
    rw [h] at this
    cases this

/-- the metric dictionaries of the matched references: what `evalPhase` hands to `evalMatched` once the
    prediction has been relabelled by `lm` -/
def dictsOf (ms : List Metric) (s : List Nat) (pred ref : Flat) (lm : LMap) : List (List (Metric × Score)) :=
  ((labelsOf ref).filter (fun r => lm.containsRef r)).map
    fun r => ms.map fun m => (m, metricOn m ⟨s, pred⟩ ⟨s, ref⟩ r (lm.predsOf r))

/-- what the matching phase returns when both sides have instances, in terms of the matcher's label map and the
    ORIGINAL arrays (the counts passed in only have to be non-zero: semantic input passes component counts) -/
theorem matchPhase_eval (cfg : Config) (bits : Nat) (s : List Nat) (pred ref : Flat) (mc : MatcherCfg)
    (np nr : Nat) (hn : (np == 0 || nr == 0) = false) (hm : cfg.matcher = some mc)
    (hlen : pred.length = ref.length) (hb : ∀ x ∈ pred ++ ref, x < 2 ^ 32 - 1)
    (hp : labelsOf pred ≠ []) (hr : labelsOf ref ≠ [])
    (out : PipeOut) (h : matchPhase cfg bits ⟨s, pred⟩ ⟨s, ref⟩ np nr = .ok out) :
    ∃ lm, runMatcher mc ⟨s, pred⟩ ⟨s, ref⟩ = .ok lm ∧ Good lm pred ref ∧
      out = { nRef := (labelsOf ref).length, nPred := (labelsOf (pred.map (rf lm pred ref))).length,
              tp := (evalMatched Score.le cfg.evalMetrics cfg.decision (dictsOf cfg.evalMetrics s pred ref lm)).1,
              lists := (evalMatched Score.le cfg.evalMetrics cfg.decision (dictsOf cfg.evalMetrics s pred ref lm)).2,
              matchedPred := some (pred.map (rf lm pred ref)), lmap := some lm } := by
  obtain ⟨lm, hrun⟩ := runMatcher_total mc ⟨s, pred⟩ ⟨s, ref⟩
  have hg : Good lm pred ref := runMatcher_good mc ⟨s, pred⟩ ⟨s, ref⟩ hlen hb lm hrun
  refine ⟨lm, hrun, hg, ?_⟩
  rw [matchPhase_of_nonzero cfg bits ⟨s, pred⟩ ⟨s, ref⟩ _ _ mc lm hn hm hrun] at h
  change evalPhase cfg ⟨s, mapInstanceLabels bits pred (labelsOf ref) (labelsOf pred) lm⟩ ⟨s, ref⟩ _ _ = _ at h
  rw [C04.relabel_pointwise bits pred lm _ _ (bounded_of_good hg hb)] at h
  change evalPhase cfg ⟨s, pred.map (rf lm pred ref)⟩ ⟨s, ref⟩ (some lm)
    (some (pred.map (rf lm pred ref))) = _ at h
  rw [evalPhase_of_nonzero cfg ⟨s, pred.map (rf lm pred ref)⟩ ⟨s, ref⟩ _ _
    (labelsOf_map_rf_ne_nil hg hp) hr] at h
  have hd : (matchedInstances (pred.map (rf lm pred ref)) ref).map
      (evaluateInstance cfg.evalMetrics ⟨s, pred.map (rf lm pred ref)⟩ ⟨s, ref⟩) =
      dictsOf cfg.evalMetrics s pred ref lm := by
    rw [matchedInstances_map_rf hg]
    apply List.map_congr_left
    intro r hrm
    exact List.map_congr_left fun m _ => by rw [metricOn_map_rf m s hg r (List.mem_filter.1 hrm).1]
  simp only at h
  rw [hd] at h
  exact (Except.ok.inj h).symm

theorem pipeline_eval (cfg : Config) (bits : Nat) (s : List Nat) (pred ref : Flat) (mc : MatcherCfg)
    (hin : cfg.input = .UNMATCHED) (hm : cfg.matcher = some mc)
    (hlen : pred.length = ref.length) (hb : ∀ x ∈ pred ++ ref, x < 2 ^ 32 - 1)
    (hp : labelsOf pred ≠ []) (hr : labelsOf ref ≠ [])
    (out : PipeOut) (h : pipeline cfg bits ⟨s, pred⟩ ⟨s, ref⟩ = .ok out) :
    ∃ lm, runMatcher mc ⟨s, pred⟩ ⟨s, ref⟩ = .ok lm ∧ Good lm pred ref ∧
      out = { nRef := (labelsOf ref).length, nPred := (labelsOf (pred.map (rf lm pred ref))).length,
              tp := (evalMatched Score.le cfg.evalMetrics cfg.decision (dictsOf cfg.evalMetrics s pred ref lm)).1,
              lists := (evalMatched Score.le cfg.evalMetrics cfg.decision (dictsOf cfg.evalMetrics s pred ref lm)).2,
              matchedPred := some (pred.map (rf lm pred ref)), lmap := some lm } := by
  rw [pipeline_unmatched cfg bits _ _ hin] at h
  exact matchPhase_eval cfg bits s pred ref mc _ _ (counts_nonzero hp hr) hm hlen hb hp hr out h

/-- the same with tp and the lists spelled out (the form `C01.pipeline_unmatched_values` states) -/
theorem matchPhase_values (cfg : Config) (bits : Nat) (s : List Nat) (pred ref : Flat) (mc : MatcherCfg)
    (np nr : Nat) (hn : (np == 0 || nr == 0) = false) (hm : cfg.matcher = some mc)
    (hlen : pred.length = ref.length) (hb : ∀ x ∈ pred ++ ref, x < 2 ^ 32 - 1)
    (hp : labelsOf pred ≠ []) (hr : labelsOf ref ≠ [])
    (out : PipeOut) (h : matchPhase cfg bits ⟨s, pred⟩ ⟨s, ref⟩ np nr = .ok out) :
    ∃ lm, runMatcher mc ⟨s, pred⟩ ⟨s, ref⟩ = .ok lm ∧ out.lmap = some lm ∧
      out.matchedPred = some (pred.map (rf lm pred ref)) ∧
      out.nRef = (labelsOf ref).length ∧
      out.tp = (((labelsOf ref).filter (fun r => lm.containsRef r)).filter (fun r =>
         passesDecision Score.le cfg.decision (cfg.evalMetrics.map (fun m =>
           (m, metricOn m ⟨s, pred⟩ ⟨s, ref⟩ r (lm.predsOf r)))))).length ∧
      out.lists = cfg.evalMetrics.map (fun m => (m,
        (((labelsOf ref).filter (fun r => lm.containsRef r)).filter (fun r =>
         passesDecision Score.le cfg.decision (cfg.evalMetrics.map (fun m =>
           (m, metricOn m ⟨s, pred⟩ ⟨s, ref⟩ r (lm.predsOf r)))))).map
          (fun r => metricOn m ⟨s, pred⟩ ⟨s, ref⟩ r (lm.predsOf r)))) := by
  obtain ⟨lm, hrun, _, rfl⟩ := matchPhase_eval cfg bits s pred ref mc np nr hn hm hlen hb hp hr out h
  refine ⟨lm, hrun, rfl, rfl, rfl, ?_, ?_⟩ <;> simp only [dictsOf, evalMatched_score]

end Values
end Panoptica
