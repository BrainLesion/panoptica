/- count invariance end to end (C10): everything the pipeline reports for instance input depends on the
   scene only through the multiset `fgPairs pred ref` — label lists, candidate pairs, IoU / Dice / RVD of a
   reference against a set of predictions, the matcher's answer (threshold or merge), relabelling and evaluation -/
import Panoptica.Proofs.Crop
import Panoptica.Proofs.Pipeline
import Panoptica.Proofs.Values
import Panoptica.Proofs.RelabelMerge
import Panoptica.Properties.C10
namespace Panoptica
open Panoptica.C10 Panoptica.Spec

/-! ### (1), (2) label lists and candidate pairs -/

theorem mem_iff_zip_fst (pred ref : Flat) (hlen : pred.length = ref.length) (x : Lab) :
    x ∈ pred ↔ ∃ z ∈ pred.zip ref, z.1 = x := by
  have h : pred = (pred.zip ref).map Prod.fst := (List.map_fst_zip (by omega)).symm
  conv => lhs; rw [h]
  rw [List.mem_map]

theorem mem_iff_zip_snd (pred ref : Flat) (hlen : pred.length = ref.length) (x : Lab) :
    x ∈ ref ↔ ∃ z ∈ pred.zip ref, z.2 = x := by
  have h : ref = (pred.zip ref).map Prod.snd := (List.map_snd_zip (by omega)).symm
  conv => lhs; rw [h]
  rw [List.mem_map]

/-- a count over the pairs that ignores background pairs is the same for two scenes whose foreground
    pairs are a rearrangement of each other -/
theorem zipCountP_perm {pred ref pred' ref' : Flat} (hperm : (fgPairs pred ref).Perm (fgPairs pred' ref'))
    (q : Lab × Lab → Bool) (hq : q (0, 0) = false) :
    (pred.zip ref).countP q = (pred'.zip ref').countP q := by
  rw [countP_fgPairs _ _ _ hq, countP_fgPairs _ _ _ hq, hperm.countP_eq]

/-- existence version of `zipCountP_perm` -/
theorem exists_zip_perm {pred ref pred' ref' : Flat} (hperm : (fgPairs pred ref).Perm (fgPairs pred' ref'))
    (q : Lab × Lab → Bool) (hq : q (0, 0) = false) :
    (∃ z ∈ pred.zip ref, q z = true) ↔ ∃ z ∈ pred'.zip ref', q z = true := by
  rw [← List.countP_pos_iff, ← List.countP_pos_iff, zipCountP_perm hperm q hq]

theorem labelsOf_fgPairs_aux (pred ref pred' ref' : Flat) (hlen : pred.length = ref.length)
    (hlen' : pred'.length = ref'.length) (hperm : (fgPairs pred ref).Perm (fgPairs pred' ref')) :
    labelsOf pred = labelsOf pred' ∧ labelsOf ref = labelsOf ref' := by
  constructor
  · apply sorted_ext _ _ (uniqueSorted_sorted _) (uniqueSorted_sorted _)
    intro x
    show x ∈ labelsOf pred ↔ x ∈ labelsOf pred'
    rw [mem_labelsOf, mem_labelsOf, mem_iff_zip_fst pred ref hlen, mem_iff_zip_fst pred' ref' hlen']
    by_cases hx : x = 0
    · simp [hx]
    · have := exists_zip_perm hperm (fun z => z.1 == x) (by simpa using Ne.symm hx)
      simp only [beq_iff_eq] at this
      rw [this]
  · apply sorted_ext _ _ (uniqueSorted_sorted _) (uniqueSorted_sorted _)
    intro x
    show x ∈ labelsOf ref ↔ x ∈ labelsOf ref'
    rw [mem_labelsOf, mem_labelsOf, mem_iff_zip_snd pred ref hlen, mem_iff_zip_snd pred' ref' hlen']
    by_cases hx : x = 0
    · simp [hx]
    · have := exists_zip_perm hperm (fun z => z.2 == x) (by simpa using Ne.symm hx)
      simp only [beq_iff_eq] at this
      rw [this]

theorem overlapPairs_fgPairs_aux (pred ref pred' ref' : Flat) (hlen : pred.length = ref.length)
    (hlen' : pred'.length = ref'.length) (hperm : (fgPairs pred ref).Perm (fgPairs pred' ref')) :
    overlapPairs pred ref (labelsOf ref) = overlapPairs pred' ref' (labelsOf ref') := by
  rw [← (labelsOf_fgPairs_aux pred ref pred' ref' hlen hlen' hperm).2]
  unfold overlapPairs overlapPairsM
  simp only
  apply congrArg (List.map _)
  apply sorted_ext _ _ ((uniqueSorted_sorted _).filter _) ((uniqueSorted_sorted _).filter _)
  intro c
  simp only [List.mem_filter, mem_uniqueSorted, encodeArr_eq, List.mem_map, decide_eq_true_eq]
  by_cases hc : c = 0
  · simp [hc]
  · have := exists_zip_perm hperm
      (fun z => (if z.2 == 0 then 0 else ((z.1 % twoPow64) * (maxOf (labelsOf ref) + 1) + z.2) % twoPow64) == c)
      (by simpa using Ne.symm hc)
    simp only [beq_iff_eq] at this ⊢
    rw [this]

/-! ### (3) the count-based metrics -/

theorem sel_zip (pred ref : Flat) (r : Lab) (ps : List Lab) :
    (selRef ref r).zip (selPred pred ps) = (pred.zip ref).map (fun z => (z.2 == r, ps.contains z.1)) := by
  rw [selRef, selPred, List.zip_map, zip_swap pred ref, List.map_map]; rfl

theorem card_selPred_zip (pred ref : Flat) (hlen : pred.length = ref.length) (ps : List Lab) :
    card (selPred pred ps) = (pred.zip ref).countP (fun z => ps.contains z.1) := by
  rw [card_eq_countP, selPred, List.countP_map, ← countP_fst_zip _ pred ref (by omega)]; rfl

theorem cardInter_selPred_zip (pred ref : Flat) (r : Lab) (ps : List Lab) :
    cardInter (selRef ref r) (selPred pred ps) =
      (pred.zip ref).countP (fun z => ps.contains z.1 && z.2 == r) := by
  rw [cardInter_eq_countP, sel_zip, List.countP_map]
  exact List.countP_congr fun z _ => by simp [and_comm]

theorem cardUnion_selPred_zip (pred ref : Flat) (r : Lab) (ps : List Lab) :
    cardUnion (selRef ref r) (selPred pred ps) =
      (pred.zip ref).countP (fun z => ps.contains z.1 || z.2 == r) := by
  rw [cardUnion_eq_countP, sel_zip, List.countP_map]
  exact List.countP_congr fun z _ => by simp [or_comm]

/-- the voxel counts behind IoU / Dice / RVD of `r` against the union of `ps` -/
theorem selCounts_fgPairs (pred ref pred' ref' : Flat)
    (hlen : pred.length = ref.length) (hlen' : pred'.length = ref'.length)
    (hperm : (fgPairs pred ref).Perm (fgPairs pred' ref')) (r : Lab) (ps : List Lab)
    (hr : r ≠ 0) (hps : ∀ p ∈ ps, p ≠ 0) :
    card (selRef ref r) = card (selRef ref' r) ∧
    card (selPred pred ps) = card (selPred pred' ps) ∧
    cardInter (selRef ref r) (selPred pred ps) = cardInter (selRef ref' r) (selPred pred' ps) ∧
    cardUnion (selRef ref r) (selPred pred ps) = cardUnion (selRef ref' r) (selPred pred' ps) := by
  have hr' : ((0 : Lab) == r) = false := by simpa using hr.symm
  have hps' : ps.contains 0 = false := by
    rw [Bool.eq_false_iff]; exact fun h => hps 0 (List.contains_iff_mem.1 h) rfl
  refine ⟨?_, ?_, ?_, ?_⟩
  · rw [card_selRef, card_selRef, cnt_eq_countP, cnt_eq_countP, ← countP_snd_zip _ pred ref (by omega),
      ← countP_snd_zip _ pred' ref' (by omega)]
    exact zipCountP_perm hperm _ hr'
  · rw [card_selPred_zip pred ref hlen, card_selPred_zip pred' ref' hlen']
    exact zipCountP_perm hperm _ hps'
  · rw [cardInter_selPred_zip, cardInter_selPred_zip]
    exact zipCountP_perm hperm _ (by rw [hr', Bool.and_false])
  · rw [cardUnion_selPred_zip, cardUnion_selPred_zip]
    exact zipCountP_perm hperm _ (by rw [hr', hps', Bool.or_false])

theorem metricOn_fgPairs_list_aux (m : Metric) (hm : m = .IOU ∨ m = .DSC ∨ m = .RVD) (s s' : List Nat)
    (pred ref pred' ref' : Flat)
    (hlen : pred.length = ref.length) (hlen' : pred'.length = ref'.length)
    (hperm : (fgPairs pred ref).Perm (fgPairs pred' ref')) (r : Lab) (ps : List Lab)
    (hr : r ≠ 0) (hps : ∀ p ∈ ps, p ≠ 0) :
    metricOn m ⟨s, pred⟩ ⟨s, ref⟩ r ps = metricOn m ⟨s', pred'⟩ ⟨s', ref'⟩ r ps := by
  obtain ⟨h1, h2, h3, h4⟩ := selCounts_fgPairs pred ref pred' ref' hlen hlen' hperm r ps hr hps
  rcases hm with rfl | rfl | rfl
  · simp only [metricOn, iouSel, selectPair, iou, interCount_maskVals, unionCount_maskVals, h3, h4]
  · simp only [metricOn, diceSel, selectPair, dice, sumVals_maskVals, interCount_maskVals, h1, h2, h3]
  · simp only [metricOn, rvdSel, selectPair, rvd, sumVals_maskVals, h1, h2]

theorem metricOn_fgPairs_aux (m : Metric) (hm : m = .IOU ∨ m = .DSC ∨ m = .RVD) (s s' : List Nat)
    (pred ref pred' ref' : Flat)
    (hlen : pred.length = ref.length) (hlen' : pred'.length = ref'.length)
    (hperm : (fgPairs pred ref).Perm (fgPairs pred' ref')) (r p : Lab) (hr : r ≠ 0) (hp : p ≠ 0) :
    metricOn m ⟨s, pred⟩ ⟨s, ref⟩ r [p] = metricOn m ⟨s', pred'⟩ ⟨s', ref'⟩ r [p] :=
  metricOn_fgPairs_list_aux m hm s s' pred ref pred' ref' hlen hlen' hperm r [p] hr
    (fun _ hq => List.mem_singleton.1 hq ▸ hp)

/-! ### (4) the evaluation phase -/

/-- what the pipeline reports, as a tuple (the relabelled array is an intermediate) -/
def reportTuple (o : PipeOut) : Nat × Nat × Nat × List (Metric × List Score) × Option LMap :=
  (o.nRef, o.nPred, o.tp, o.lists, o.lmap)

theorem evalPhase_fgPairs (cfg : Config) (hmet : ∀ m ∈ cfg.evalMetrics, m = .IOU ∨ m = .DSC ∨ m = .RVD)
    (s s' : List Nat) (pred ref pred' ref' : Flat)
    (hlen : pred.length = ref.length) (hlen' : pred'.length = ref'.length)
    (hperm : (fgPairs pred ref).Perm (fgPairs pred' ref')) (lm : Option LMap) (mp mp' : Option Flat) :
    (evalPhase cfg ⟨s, pred⟩ ⟨s, ref⟩ lm mp).map reportTuple =
      (evalPhase cfg ⟨s', pred'⟩ ⟨s', ref'⟩ lm mp').map reportTuple := by
  obtain ⟨hlp, hlr⟩ := labelsOf_fgPairs_aux pred ref pred' ref' hlen hlen' hperm
  by_cases h0 : labelsOf pred = [] ∨ labelsOf ref = []
  · have h0' : labelsOf pred' = [] ∨ labelsOf ref' = [] := by rw [← hlp, ← hlr]; exact h0
    rw [evalPhase_of_zero cfg ⟨s, pred⟩ ⟨s, ref⟩ lm mp h0,
      evalPhase_of_zero cfg ⟨s', pred'⟩ ⟨s', ref'⟩ lm mp' h0']
    simp only [Except.map, reportTuple, hlp, hlr]
  · have hp : labelsOf pred ≠ [] := fun h => h0 (Or.inl h)
    have hr : labelsOf ref ≠ [] := fun h => h0 (Or.inr h)
    have hp' : labelsOf pred' ≠ [] := by rw [← hlp]; exact hp
    have hr' : labelsOf ref' ≠ [] := by rw [← hlr]; exact hr
    rw [evalPhase_of_nonzero cfg ⟨s, pred⟩ ⟨s, ref⟩ lm mp hp hr,
      evalPhase_of_nonzero cfg ⟨s', pred'⟩ ⟨s', ref'⟩ lm mp' hp' hr']
    have hd : (matchedInstances pred ref).map (evaluateInstance cfg.evalMetrics ⟨s, pred⟩ ⟨s, ref⟩) =
        (matchedInstances pred' ref').map (evaluateInstance cfg.evalMetrics ⟨s', pred'⟩ ⟨s', ref'⟩) := by
      have hmi : matchedInstances pred' ref' = matchedInstances pred ref := by
        unfold matchedInstances; rw [hlp, hlr]
      rw [hmi]
      apply List.map_congr_left
      intro l hl
      have hl0 : l ≠ 0 := by
        unfold matchedInstances at hl
        exact ((mem_labelsOf pred l).1 (List.mem_filter.1 hl).1).2
      unfold evaluateInstance
      apply List.map_congr_left
      intro m hm
      rw [metricOn_fgPairs_aux m (hmet m hm) s s' pred ref pred' ref' hlen hlen' hperm l l hl0 hl0]
    simp only [Except.map, reportTuple, hlp, hlr, hd]

/-! ### (5) the matcher -/

theorem scoredCands_fgPairs (m : Metric) (hm : m = .IOU ∨ m = .DSC) (s s' : List Nat)
    (pred ref pred' ref' : Flat)
    (hlen : pred.length = ref.length) (hlen' : pred'.length = ref'.length)
    (hbp : ∀ x ∈ pred, x < 2 ^ 32) (hbr : ∀ x ∈ ref, x < 2 ^ 32 - 1)
    (hperm : (fgPairs pred ref).Perm (fgPairs pred' ref')) :
    scoredCands m ⟨s, pred⟩ ⟨s, ref⟩ = scoredCands m ⟨s', pred'⟩ ⟨s', ref'⟩ := by
  unfold scoredCands
  simp only
  rw [← overlapPairs_fgPairs_aux pred ref pred' ref' hlen hlen' hperm]
  apply List.map_congr_left
  rintro ⟨r, p⟩ h
  obtain ⟨hr0, hp0, _⟩ := (C09.overlapPairs_spec pred ref hlen hbp hbr r p).1 h
  have hm' : m = .IOU ∨ m = .DSC ∨ m = .RVD := by
    rcases hm with h | h
    · exact Or.inl h
    · exact Or.inr (Or.inl h)
  simp only
  rw [metricOn_fgPairs_aux m hm' s s' pred ref pred' ref' hlen hlen' hperm r p hr0 hp0]

namespace InvarianceMerge
/-! the merge loop only asks for combined scores of candidate labels -/

section loop
variable {S : Type} (le : S → S → Bool) (dec : Bool) (thr : S) (comb comb' : Lab → List Lab → S)
  (P Q : Lab → Prop)

theorem mergeStep_congr (st : MergeState S) (c : Cand S)
    (h : comb c.ref (st.lmap.predsOf c.ref ++ [c.pred]) = comb' c.ref (st.lmap.predsOf c.ref ++ [c.pred])) :
    mergeStep le dec thr comb st c = mergeStep le dec thr comb' st c := by
  unfold mergeStep
  rw [h]

theorem fold_congr
    (hcomb : ∀ r ps, Q r → (∀ p ∈ ps, P p) → comb r ps = comb' r ps)
    (cs : List (Cand S)) (hcs : ∀ c ∈ cs, P c.pred ∧ Q c.ref)
    (st : MergeState S) (hinv : RelabelMerge.StInv P Q st) :
    cs.foldl (mergeStep le dec thr comb) st = cs.foldl (mergeStep le dec thr comb') st ∧
      RelabelMerge.StInv P Q (cs.foldl (mergeStep le dec thr comb) st) := by
  induction cs generalizing st with
  | nil => exact ⟨rfl, hinv⟩
  | cons c cs ih =>
    have hc := hcs c (List.mem_cons_self ..)
    have hstep : mergeStep le dec thr comb st c = mergeStep le dec thr comb' st c := by
      apply mergeStep_congr
      apply hcomb _ _ hc.2
      intro p hp
      rcases List.mem_append.1 hp with hp | hp
      · unfold LMap.predsOf at hp
        obtain ⟨e, he, rfl⟩ := List.mem_map.1 hp
        exact (hinv.lm e (List.mem_filter.1 he).1).1
      · rw [List.mem_singleton] at hp
        rw [hp]; exact hc.1
    rw [List.foldl_cons, List.foldl_cons, ← hstep]
    exact ih (fun c' hc' => hcs c' (List.mem_cons_of_mem _ hc')) _
      (RelabelMerge.StInv_step le dec thr comb P Q st c hinv hc)

theorem mergeLoop_congr
    (hcomb : ∀ r ps, Q r → (∀ p ∈ ps, P p) → comb r ps = comb' r ps)
    (cs : List (Cand S)) (hcs : ∀ c ∈ cs, P c.pred ∧ Q c.ref) :
    mergeLoop le dec thr comb cs = mergeLoop le dec thr comb' cs ∧
      ∀ e ∈ (mergeLoop le dec thr comb cs).lmap, P e.1 ∧ Q e.2 := by
  unfold mergeLoop
  have := fold_congr le dec thr comb comb' P Q hcomb cs hcs { lmap := [], scores := [] }
    ⟨fun e he => (by cases he), fun e he => (by cases he)⟩
  exact ⟨this.1, this.2.lm⟩

end loop

end InvarianceMerge

/-- the matcher's answer, for every kind of matcher on IoU / Dice -/
theorem runMatcher_fgPairs (mc : MatcherCfg) (hmm : mc.metric = .IOU ∨ mc.metric = .DSC)
    (s s' : List Nat) (pred ref pred' ref' : Flat)
    (hlen : pred.length = ref.length) (hlen' : pred'.length = ref'.length)
    (hb : ∀ x ∈ pred ++ ref, x < 2 ^ 32 - 1)
    (hperm : (fgPairs pred ref).Perm (fgPairs pred' ref')) :
    runMatcher mc ⟨s, pred⟩ ⟨s, ref⟩ = runMatcher mc ⟨s', pred'⟩ ⟨s', ref'⟩ := by
  have hbp : ∀ x ∈ pred, x < 2 ^ 32 := fun x hx => lt32_of_lt x (hb x (List.mem_append_left _ hx))
  have hbr : ∀ x ∈ ref, x < 2 ^ 32 - 1 := fun x hx => hb x (List.mem_append_right _ hx)
  have hcs := scoredCands_fgPairs mc.metric hmm s s' pred ref pred' ref' hlen hlen' hbp hbr hperm
  unfold runMatcher
  rw [← hcs]
  cases mc.kind with
  | naive m2o => rfl
  | merge =>
    have hloop := (InvarianceMerge.mergeLoop_congr Score.le mc.metric.decreasing mc.thr
      (fun r ps => metricOn mc.metric ⟨s, pred⟩ ⟨s, ref⟩ r ps)
      (fun r ps => metricOn mc.metric ⟨s', pred'⟩ ⟨s', ref'⟩ r ps)
      (· ∈ labelsOf pred) (· ∈ labelsOf ref)
      (fun r ps hr hps => metricOn_fgPairs_list_aux mc.metric (hmm.imp_right Or.inl) s s' pred ref pred' ref'
        hlen hlen' hperm r ps ((mem_labelsOf _ _).1 hr).2 (fun p hp => ((mem_labelsOf _ _).1 (hps p hp)).2))
      _ (fun c hc => Values.cand_labels mc.metric ⟨s, pred⟩ ⟨s, ref⟩ hlen hbp hbr c hc)).1
    simp only [mergeMatch, hloop]

/-! ### (6) relabelling and evaluation, for every good label map -/

theorem fgPairs_map_left (f : Lab → Lab) (pred ref : Flat) (hf : ∀ x ∈ pred, (f x = 0 ↔ x = 0)) :
    fgPairs (pred.map f) ref = (fgPairs pred ref).map (fun z => (f z.1, z.2)) := by
  unfold fgPairs
  rw [List.zip_map_left, List.filter_map]
  have hfun : (Prod.map f id : Lab × Lab → Lab × Lab) = (fun z => (f z.1, z.2)) := by
    funext z; rfl
  rw [hfun]
  apply congrArg (List.map _)
  apply List.filter_congr
  intro z hz
  have hz1 : z.1 ∈ pred := (List.of_mem_zip (a := z.1) (b := z.2) hz).1
  have := hf z.1 hz1
  have e : (f z.1 != 0) = (z.1 != 0) := by
    rw [Bool.eq_iff_iff]
    simp only [bne_iff_ne, ne_eq]
    exact not_congr this
  simp only [Function.comp_apply, e]

theorem relabel_evalPhase_fgPairs (cfg : Config)
    (hmet : ∀ m ∈ cfg.evalMetrics, m = .IOU ∨ m = .DSC ∨ m = .RVD)
    (bits : Nat) (s s' : List Nat) (pred ref pred' ref' : Flat)
    (hlen : pred.length = ref.length) (hlen' : pred'.length = ref'.length)
    (hb : ∀ x ∈ pred ++ ref, x < 2 ^ 32 - 1) (hb' : ∀ x ∈ pred' ++ ref', x < 2 ^ 32 - 1)
    (hperm : (fgPairs pred ref).Perm (fgPairs pred' ref')) (lm : LMap) (hg : Values.Good lm pred ref) :
    (evalPhase cfg ⟨s, mapInstanceLabels bits pred (labelsOf ref) (labelsOf pred) lm⟩ ⟨s, ref⟩ (some lm)
        (some (mapInstanceLabels bits pred (labelsOf ref) (labelsOf pred) lm))).map reportTuple =
      (evalPhase cfg ⟨s', mapInstanceLabels bits pred' (labelsOf ref') (labelsOf pred') lm⟩ ⟨s', ref'⟩ (some lm)
        (some (mapInstanceLabels bits pred' (labelsOf ref') (labelsOf pred') lm))).map reportTuple := by
  obtain ⟨hlp, hlr⟩ := labelsOf_fgPairs_aux pred ref pred' ref' hlen hlen' hperm
  have hg' : Values.Good lm pred' ref' := ⟨hlp ▸ hg.keys, hlr ▸ hg.vals, hg.functional⟩
  rw [C04.relabel_pointwise bits pred lm _ _ (Values.bounded_of_good hg hb),
    C04.relabel_pointwise bits pred' lm _ _ (Values.bounded_of_good hg' hb')]
  apply evalPhase_fgPairs cfg hmet s s' _ ref _ ref' (by simp [hlen]) (by simp [hlen'])
  rw [fgPairs_map_left _ _ _ (Values.rf_eq_zero_iff hg), fgPairs_map_left _ _ _ (Values.rf_eq_zero_iff hg')]
  unfold Values.rf
  rw [← hlp, ← hlr]
  exact hperm.map _

/-! ### (7) unmatched input, any matcher on IoU / Dice -/

theorem pipeline_unmatched_fgPairs (cfg : Config) (hin : cfg.input = .UNMATCHED)
    (hmet : ∀ m ∈ cfg.evalMetrics, m = .IOU ∨ m = .DSC ∨ m = .RVD)
    (hmat : ∀ mc, cfg.matcher = some mc → mc.metric = .IOU ∨ mc.metric = .DSC)
    (bits : Nat) (s s' : List Nat) (pred ref pred' ref' : Flat)
    (hlen : pred.length = ref.length) (hlen' : pred'.length = ref'.length)
    (hb : ∀ x ∈ pred ++ ref, x < 2 ^ 32 - 1) (hb' : ∀ x ∈ pred' ++ ref', x < 2 ^ 32 - 1)
    (hperm : (fgPairs pred ref).Perm (fgPairs pred' ref')) :
    (pipeline cfg bits ⟨s, pred⟩ ⟨s, ref⟩).map reportTuple =
      (pipeline cfg bits ⟨s', pred'⟩ ⟨s', ref'⟩).map reportTuple := by
  obtain ⟨hlp, hlr⟩ := labelsOf_fgPairs_aux pred ref pred' ref' hlen hlen' hperm
  rw [pipeline_unmatched _ _ _ _ hin, pipeline_unmatched _ _ _ _ hin]
  show (matchPhase cfg bits ⟨s, pred⟩ ⟨s, ref⟩ (labelsOf pred).length (labelsOf ref).length).map _ =
    (matchPhase cfg bits ⟨s', pred'⟩ ⟨s', ref'⟩ (labelsOf pred').length (labelsOf ref').length).map _
  rw [← hlp, ← hlr]
  cases hn : ((labelsOf pred).length == 0 || (labelsOf ref).length == 0) with
  | true =>
    have h0 : (labelsOf pred).length = 0 ∨ (labelsOf ref).length = 0 := by simpa using hn
    rw [matchPhase_zero _ _ _ _ _ _ h0, matchPhase_zero _ _ _ _ _ _ h0]
  | false =>
    cases hmc : cfg.matcher with
    | none => rw [matchPhase_none _ _ _ _ _ _ hn hmc, matchPhase_none _ _ _ _ _ _ hn hmc]
    | some mc =>
      obtain ⟨lm, hrun⟩ := Values.runMatcher_total mc ⟨s, pred⟩ ⟨s, ref⟩
      have hrun' := runMatcher_fgPairs mc (hmat mc hmc) s s' pred ref pred' ref' hlen hlen' hb hperm ▸ hrun
      rw [matchPhase_of_nonzero _ _ _ _ _ _ mc lm hn hmc hrun,
        matchPhase_of_nonzero _ _ _ _ _ _ mc lm hn hmc hrun']
      exact relabel_evalPhase_fgPairs cfg hmet bits s s' pred ref pred' ref' hlen hlen' hb hb' hperm lm
        (Values.runMatcher_good mc ⟨s, pred⟩ ⟨s, ref⟩ hlen hb lm hrun)

end Panoptica
