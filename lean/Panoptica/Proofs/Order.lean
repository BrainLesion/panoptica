/- the order "at least as good, in the metric's direction" is `beats`; `betterEq`
   (Proofs/Merge.lean), `C14.betterEqS`, `C03.betterEq` are the same function.  Three lemmas remove every
   `cases dec` from the loop proofs. -/
import Panoptica.Model.Matching
namespace Panoptica
variable {S : Type} {le : S → S → Bool} {dec : Bool}

theorem beats_refl (hrefl : ∀ a, le a a = true) (a : S) : beats le dec a a = true := by
  unfold beats; cases dec <;> exact hrefl a

/-- transitivity, also when `le` is transitive only on a class `E` of scores (`E := fun _ => True` otherwise) -/
theorem beats_trans {E : S → Prop}
    (htrans : ∀ a b c, E a → E b → E c → le a b = true → le b c = true → le a c = true)
    {a b c : S} (ha : E a) (hb : E b) (hc : E c)
    (h1 : beats le dec a b = true) (h2 : beats le dec b c = true) : beats le dec a c = true := by
  unfold beats at *
  cases dec
  · exact htrans _ _ _ hc hb ha h2 h1
  · exact htrans _ _ _ ha hb hc h1 h2

theorem beats_total (htot : ∀ a b, le a b = true ∨ le b a = true) (a b : S) :
    beats le dec a b = true ∨ beats le dec b a = true := by
  unfold beats; cases dec
  · exact htot b a
  · exact htot a b

theorem strictlyBetter_iff {a b : S} :
    strictlyBetter le dec a b = true ↔ beats le dec a b = true ∧ beats le dec b a = false := by
  unfold strictlyBetter beats; cases dec <;> simp

/-- unrestricted transitivity -/
theorem beats_trans' (htrans : ∀ a b c, le a b = true → le b c = true → le a c = true) {a b c : S}
    (h1 : beats le dec a b = true) (h2 : beats le dec b c = true) : beats le dec a c = true :=
  beats_trans (E := fun _ => True) (fun a b c _ _ _ => htrans a b c) trivial trivial trivial h1 h2

end Panoptica

namespace Panoptica
section
variable {S : Type} (le : S → S → Bool) (dec : Bool)

/-- "at least as good" in the metric's preferred direction: the same function as `beats` -/
abbrev betterEq (a b : S) : Bool := beats le dec a b

/-- the best-first list is sorted by `betterEq` on the scores -/
theorem sortBest_pairwise
    (htrans : ∀ a b c, le a b = true → le b c = true → le a c = true)
    (htotal : ∀ a b, le a b = true ∨ le b a = true) (cs : List (Cand S)) :
    (sortBest le dec cs).Pairwise (fun a b => betterEq le dec a.score b.score = true) := by
  unfold sortBest
  exact List.pairwise_mergeSort (le := fun (a b : Cand S) => if dec then le a.score b.score else le b.score a.score)
    (fun a b c => beats_trans' htrans)
    (fun a b => by simpa [beats] using beats_total (dec := dec) htotal a.score b.score) cs

theorem mem_sortBest (cs : List (Cand S)) (c : Cand S) : c ∈ sortBest le dec cs ↔ c ∈ cs := by
  unfold sortBest; exact List.mem_mergeSort

end

end Panoptica

