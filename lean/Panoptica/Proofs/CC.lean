/- helper lemmas for C05 (closure by saturation = reachability; component numbering) -/
import Panoptica.Model.Geometry
import Panoptica.Proofs.Reach
import Panoptica.Proofs.Basic
namespace Panoptica
open Panoptica.Spec

section CC
set_option linter.unusedSectionVars false
variable {α : Type} [BEq α] [LawfulBEq α]

/-! ### saturation = reachability -/

/-- every set in the saturation chain is `V.filter p` for some `p` -/
def IsFilt (V S : List α) : Prop := ∃ p : α → Bool, S = V.filter p

theorem expand_isFilt (adj : α → α → Bool) (V S : List α) : IsFilt V (expand adj V S) := ⟨_, rfl⟩

theorem sub_expand (adj : α → α → Bool) (V S : List α) (h : IsFilt V S) :
    S.Sublist (expand adj V S) := by
  obtain ⟨p, rfl⟩ := h
  unfold expand
  have : V.filter p = (V.filter (fun v => (V.filter p).contains v ||
      (V.filter p).any (fun s => adj s v))).filter p := by
    rw [List.filter_filter]
    apply List.filter_congr
    intro x hx
    by_cases hp : p x = true
    · have : x ∈ V.filter p := List.mem_filter.mpr ⟨hx, hp⟩
      simp [hp, this]
    · simp [hp]
  conv => lhs; rw [this]
  exact List.filter_sublist

theorem expand_eq_of_len (adj : α → α → Bool) (V S : List α) (h : IsFilt V S)
    (hl : (expand adj V S).length ≤ S.length) : expand adj V S = S :=
  ((sub_expand adj V S h).eq_of_length_le hl).symm

theorem iter_isFilt (adj : α → α → Bool) (V : List α) :
    ∀ n S, IsFilt V S → IsFilt V (iter adj V n S)
  | 0, _, h => h
  | n+1, S, _ => iter_isFilt adj V n _ (expand_isFilt adj V S)

theorem iter_succ' (adj : α → α → Bool) (V : List α) :
    ∀ n S, iter adj V (n+1) S = expand adj V (iter adj V n S)
  | 0, _ => rfl
  | n+1, S => by
    show iter adj V (n+1) (expand adj V S) = expand adj V (iter adj V n (expand adj V S))
    exact iter_succ' adj V n _

/-- key lemma: either already stable by round n, or the length grew by at least n+1 -/
theorem stable_or_grow (adj : α → α → Bool) (V : List α) (S : List α) (h : IsFilt V S) :
    ∀ n, expand adj V (iter adj V n S) = iter adj V n S ∨
      S.length + (n+1) ≤ (iter adj V (n+1) S).length
  | 0 => by
    by_cases hl : (expand adj V S).length ≤ S.length
    · left; exact expand_eq_of_len adj V S h hl
    · right
      show S.length + 1 ≤ (expand adj V S).length
      omega
  | n+1 => by
    have ih := stable_or_grow adj V S h n
    have hf := iter_isFilt adj V (n+1) S h
    rcases ih with ih | ih
    · left
      rw [iter_succ' adj V n S, ih, ih]
    · by_cases hl : (expand adj V (iter adj V (n+1) S)).length ≤ (iter adj V (n+1) S).length
      · left; exact expand_eq_of_len adj V _ hf hl
      · right
        rw [iter_succ' adj V (n+1) S]
        omega

theorem iter_len_le (adj : α → α → Bool) (V : List α) (n : Nat) (S : List α) (h : IsFilt V S) :
    (iter adj V n S).length ≤ V.length := by
  obtain ⟨p, hp⟩ := iter_isFilt adj V n S h
  rw [hp]; exact List.length_filter_le _ _

theorem closure_fixed (adj : α → α → Bool) (V : List α) (S : List α) (h : IsFilt V S) :
    expand adj V (iter adj V V.length S) = iter adj V V.length S := by
  rcases stable_or_grow adj V S h V.length with h1 | h1
  · exact h1
  · exfalso
    have := iter_len_le adj V (V.length+1) S h
    omega

theorem mem_expand (adj : α → α → Bool) (V S : List α) (v : α) :
    v ∈ expand adj V S ↔ v ∈ V ∧ (v ∈ S ∨ ∃ s ∈ S, adj s v = true) := by
  simp [expand, List.mem_filter]

theorem closure_isFilt (adj : α → α → Bool) (V : List α) (seed : α) :
    IsFilt V (closure adj V seed) :=
  iter_isFilt adj V _ _ ⟨_, rfl⟩

theorem closure_complete (adj : α → α → Bool) (V : List α) (seed b : α)
    (hr : Reach adj V seed b) : b ∈ closure adj V seed := by
  have hS0 : IsFilt V (V.filter (· == seed)) := ⟨_, rfl⟩
  have hfix := closure_fixed adj V _ hS0
  induction hr with
  | refl hmem =>
    have h0 : seed ∈ V.filter (· == seed) := by simp [List.mem_filter, hmem]
    have : ∀ n S, IsFilt V S → seed ∈ S → seed ∈ iter adj V n S := by
      intro n; induction n with
      | zero => intro S _ h; exact h
      | succ n ih =>
        intro S hS h
        exact ih _ (expand_isFilt adj V S) ((sub_expand adj V S hS).subset h)
    exact this _ _ hS0 h0
  | step _ hc hadj ih =>
    unfold closure at *
    rw [← hfix]
    exact (mem_expand adj V _ _).mpr ⟨hc, Or.inr ⟨_, ih, hadj⟩⟩

theorem closure_sound (adj : α → α → Bool) (V : List α) (seed b : α)
    (hb : b ∈ closure adj V seed) : Reach adj V seed b := by
  have : ∀ n S, (∀ x ∈ S, Reach adj V seed x) → ∀ x ∈ iter adj V n S, Reach adj V seed x := by
    intro n; induction n with
    | zero => intro S h x hx; exact h x hx
    | succ n ih =>
      intro S h x hx
      apply ih (expand adj V S) _ x hx
      intro y hy
      rcases (mem_expand adj V S y).mp hy with ⟨hyV, hyS | ⟨s, hs, hadj⟩⟩
      · exact h y hyS
      · exact Reach.step (h s hs) hyV hadj
  apply this _ _ _ b hb
  intro x hx
  simp [List.mem_filter] at hx
  obtain ⟨hxV, rfl⟩ := hx
  exact Reach.refl _ hxV

theorem mem_closure_iff (adj : α → α → Bool) (V : List α) (seed b : α) :
    b ∈ closure adj V seed ↔ Reach adj V seed b :=
  ⟨closure_sound adj V seed b, closure_complete adj V seed b⟩

theorem closure_nodup (adj : α → α → Bool) (V : List α) (hnd : V.Nodup) (seed : α) :
    (closure adj V seed).Nodup := by
  obtain ⟨p, hp⟩ := closure_isFilt adj V seed
  rw [hp]
  exact hnd.sublist List.filter_sublist

/-! ### the numbering loop -/

/-- loop invariant of `ccGo adj V rest acc next` -/
structure CCInv (adj : α → α → Bool) (V : List α) (acc : List (α × Nat)) (next : Nat) : Prop where
  pos : 1 ≤ next
  keysV : ∀ e ∈ acc, e.1 ∈ V
  nodup : (acc.map (·.1)).Nodup
  lt : ∀ e ∈ acc, 1 ≤ e.2 ∧ e.2 < next
  used : ∀ k, 1 ≤ k → k < next → ∃ v, (v, k) ∈ acc
  conn : ∀ a b n, (a, n) ∈ acc → (b, n) ∈ acc → Reach adj V a b
  closed : ∀ x y n, (x, n) ∈ acc → Reach adj V x y → (y, n) ∈ acc

theorem CCInv.init (adj : α → α → Bool) (V : List α) : CCInv adj V [] 1 where
  pos := Nat.le_refl _
  keysV := by intro e he; cases he
  nodup := by simp
  lt := by intro e he; cases he
  used := by intro k h1 h2; omega
  conn := by intro a b n h; cases h
  closed := by intro x y n h; cases h

theorem any_key_iff (acc : List (α × Nat)) (v : α) :
    acc.any (fun e => e.1 == v) = true ↔ ∃ n, (v, n) ∈ acc := by
  rw [List.any_eq_true]
  constructor
  · rintro ⟨⟨a, n⟩, he, h⟩
    have : a = v := eq_of_beq h
    subst this
    exact ⟨n, he⟩
  · rintro ⟨n, h⟩
    exact ⟨(v, n), h, beq_self_eq_true v⟩

theorem nodup_keys_unique {acc : List (α × Nat)} (h : (acc.map (·.1)).Nodup) {a : α} {n m : Nat}
    (h1 : (a, n) ∈ acc) (h2 : (a, m) ∈ acc) : n = m := by
  induction acc with
  | nil => cases h1
  | cons e es ih =>
    rw [List.map_cons, List.nodup_cons] at h
    rcases List.mem_cons.1 h1 with h1 | h1 <;> rcases List.mem_cons.1 h2 with h2 | h2
    · rw [← h1] at h2; exact (Prod.mk.inj h2).2.symm ▸ rfl
    · exfalso; apply h.1; rw [← h1]; exact List.mem_map.2 ⟨_, h2, rfl⟩
    · exfalso; apply h.1; rw [← h2]; exact List.mem_map.2 ⟨_, h1, rfl⟩
    · exact ih h.2 h1 h2

theorem CCInv.step {adj : α → α → Bool} (hsymm : ∀ a b, adj a b = adj b a) {V : List α}
    (hnd : V.Nodup) {acc : List (α × Nat)} {next : Nat} (inv : CCInv adj V acc next)
    {v : α} (hv : v ∈ V) (hnew : ¬ ∃ n, (v, n) ∈ acc) :
    CCInv adj V (acc ++ (closure adj V v).map (fun x => (x, next))) (next + 1) := by
  have memNew : ∀ e, e ∈ (closure adj V v).map (fun x => (x, next)) ↔
      Reach adj V v e.1 ∧ e.2 = next := by
    intro e
    rw [List.mem_map]
    constructor
    · rintro ⟨x, hx, rfl⟩
      exact ⟨(mem_closure_iff adj V v x).1 hx, rfl⟩
    · rintro ⟨h1, h2⟩
      refine ⟨e.1, (mem_closure_iff adj V v e.1).2 h1, ?_⟩
      rw [← h2]
  have memAll : ∀ x n, (x, n) ∈ acc ++ (closure adj V v).map (fun x => (x, next)) ↔
      (x, n) ∈ acc ∨ (Reach adj V v x ∧ n = next) := by
    intro x n
    rw [List.mem_append, memNew]
  have fresh : ∀ x n, (x, n) ∈ acc → ¬ Reach adj V v x := by
    intro x n hx hr
    exact hnew ⟨n, inv.closed x v n hx (Reach.symm hsymm hr)⟩
  refine ⟨by have := inv.pos; omega, ?_, ?_, ?_, ?_, ?_, ?_⟩
  · intro e he
    rcases List.mem_append.1 he with he | he
    · exact inv.keysV e he
    · exact Reach.mem_right ((memNew e).1 he).1
  · rw [List.map_append, List.nodup_append]
    refine ⟨inv.nodup, ?_, ?_⟩
    · rw [List.map_map]
      have : ((fun x : α × Nat => x.1) ∘ fun x => (x, next)) = id := rfl
      rw [this, List.map_id]
      exact closure_nodup adj V hnd v
    · intro a ha b hb hab
      obtain ⟨e, he, rfl⟩ := List.mem_map.1 ha
      obtain ⟨e', he', rfl⟩ := List.mem_map.1 hb
      have := ((memNew e').1 he').1
      rw [← hab] at this
      exact fresh e.1 e.2 he this
  · intro e he
    rcases List.mem_append.1 he with he | he
    · have := inv.lt e he; omega
    · have := ((memNew e).1 he).2
      have := inv.pos
      omega
  · intro k h1 h2
    by_cases hk : k < next
    · obtain ⟨w, hw⟩ := inv.used k h1 hk
      exact ⟨w, List.mem_append_left _ hw⟩
    · have : k = next := by omega
      subst this
      exact ⟨v, (memAll v k).2 (Or.inr ⟨Reach.refl v hv, rfl⟩)⟩
  · intro a b n ha hb
    rcases (memAll a n).1 ha with ha | ⟨ha, hn⟩ <;> rcases (memAll b n).1 hb with hb | ⟨hb, hm⟩
    · exact inv.conn a b n ha hb
    · have := (inv.lt _ ha).2; simp only at this; omega
    · have := (inv.lt _ hb).2; simp only at this; omega
    · exact Reach.trans (Reach.symm hsymm ha) hb
  · intro x y n hx hr
    rcases (memAll x n).1 hx with hx | ⟨hx, hn⟩
    · exact (memAll y n).2 (Or.inl (inv.closed x y n hx hr))
    · exact (memAll y n).2 (Or.inr ⟨Reach.trans hx hr, hn⟩)

/-- the loop keeps the invariant, keeps what is already labelled and labels all of `rest` -/
theorem ccGo_inv {adj : α → α → Bool} (hsymm : ∀ a b, adj a b = adj b a) {V : List α}
    (hnd : V.Nodup) : ∀ (rest : List α) (acc : List (α × Nat)) (next : Nat),
    (∀ v ∈ rest, v ∈ V) → CCInv adj V acc next →
    ∃ next', CCInv adj V (ccGo adj V rest acc next) next' ∧
      (∀ e ∈ acc, e ∈ ccGo adj V rest acc next) ∧
      (∀ v ∈ rest, ∃ n, (v, n) ∈ ccGo adj V rest acc next) := by
  intro rest
  induction rest with
  | nil =>
    intro acc next _ inv
    exact ⟨next, inv, fun e he => he, fun v hv => by cases hv⟩
  | cons v rest ih =>
    intro acc next hsub inv
    have hsub' : ∀ w ∈ rest, w ∈ V := fun w hw => hsub w (List.mem_cons_of_mem _ hw)
    have hvV : v ∈ V := hsub v List.mem_cons_self
    unfold ccGo
    by_cases hany : acc.any (fun e => e.1 == v) = true
    · rw [if_pos hany]
      obtain ⟨next', inv', hkeep, hall⟩ := ih acc next hsub' inv
      refine ⟨next', inv', hkeep, ?_⟩
      intro w hw
      rcases List.mem_cons.1 hw with rfl | hw
      · obtain ⟨n, hn⟩ := (any_key_iff acc w).1 hany
        exact ⟨n, hkeep _ hn⟩
      · exact hall w hw
    · rw [if_neg hany]
      have hnew : ¬ ∃ n, (v, n) ∈ acc := fun h => hany ((any_key_iff acc v).2 h)
      have inv1 := CCInv.step hsymm hnd inv hvV hnew
      obtain ⟨next', inv', hkeep, hall⟩ := ih _ _ hsub' inv1
      refine ⟨next', inv', ?_, ?_⟩
      · intro e he
        exact hkeep e (List.mem_append_left _ he)
      · intro w hw
        rcases List.mem_cons.1 hw with rfl | hw
        · refine ⟨next, hkeep _ (List.mem_append_right _ ?_)⟩
          exact List.mem_map.2 ⟨w, (mem_closure_iff adj V w w).2 (Reach.refl w hvV), rfl⟩
        · exact hall w hw

theorem ccCount_eq {adj : α → α → Bool} {V : List α} {next : Nat}
    (inv : CCInv adj V (ccLabel adj V) next) : ccCount adj V + 1 = next := by
  unfold ccCount
  have h1 : maxOf ((ccLabel adj V).map (·.2)) < next := by
    apply maxOf_lt _ _ inv.pos
    intro x hx
    obtain ⟨e, he, rfl⟩ := List.mem_map.1 hx
    exact (inv.lt e he).2
  by_cases h : next = 1
  · omega
  · obtain ⟨v, hv⟩ := inv.used (next - 1) (by have := inv.pos; omega) (by have := inv.pos; omega)
    have := le_maxOf ((ccLabel adj V).map (·.2)) (next - 1) (List.mem_map.2 ⟨_, hv, rfl⟩)
    omega

/-- what the numbering computes: the invariant holds at exit with `next = ccCount + 1`, and every
    element of `V` is numbered -/
theorem ccLabel_spec {adj : α → α → Bool} (hsymm : ∀ a b, adj a b = adj b a) {V : List α}
    (hnd : V.Nodup) :
    CCInv adj V (ccLabel adj V) (ccCount adj V + 1) ∧ ∀ v ∈ V, ∃ n, (v, n) ∈ ccLabel adj V := by
  obtain ⟨next', inv, _, hall⟩ := ccGo_inv hsymm hnd V [] 1 (fun v hv => hv) (CCInv.init adj V)
  exact ⟨ccCount_eq inv ▸ inv, hall⟩

end CC

end Panoptica
