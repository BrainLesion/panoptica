/-
  Helper lemmas for Extracted/MetricCode.lean.
-/
import Panoptica.Model.MetricCode
import Panoptica.Model.Metrics
import Mathlib.Tactic.Ring
import Mathlib.Tactic.FieldSimp
import Mathlib.Tactic.Push
import Mathlib.Data.Rat.Defs
import Mathlib.Tactic.Linarith
import Mathlib.Tactic.NormNum
namespace Panoptica.MetricCode

/-- the environment of the four counts, variable by variable -/
@[simp] theorem envM_I (I U R P : Nat) : envM I U R P "I" = I := by simp [envM]
@[simp] theorem envM_U (I U R P : Nat) : envM I U R P "U" = U := by simp [envM]
@[simp] theorem envM_R (I U R P : Nat) : envM I U R P "R" = R := by simp [envM]
@[simp] theorem envM_P (I U R P : Nat) : envM I U R P "P" = P := by simp [envM]

theorem cast_ne_zero_of_ne {n : Nat} (h : n ≠ 0) : (n : Rat) ≠ 0 := by exact_mod_cast h

theorem cast_add_eq_zero_iff (a b : Nat) : (a : Rat) + (b : Rat) = 0 ↔ a = 0 ∧ b = 0 := by
  constructor
  · intro h
    have h' : a + b = 0 := by exact_mod_cast h
    omega
  · rintro ⟨rfl, rfl⟩; simp

theorem cast_add_ne_zero_left {a : Nat} (b : Nat) (h : a ≠ 0) : (a : Rat) + (b : Rat) ≠ 0 := by
  intro h0; exact h ((cast_add_eq_zero_iff a b).1 h0).1

theorem cast_add_ne_zero_right (a : Nat) {b : Nat} (h : b ≠ 0) : (a : Rat) + (b : Rat) ≠ 0 := by
  intro h0; exact h ((cast_add_eq_zero_iff a b).1 h0).2

/-- closes one case of a metric-body obligation: unfold the generated body and the evaluators, decide the
    guards from the facts in the context, then finish the remaining identity of rationals -/
macro "metric_close " b:ident : tactic => `(tactic| (
  simp only [$b:ident, QBody.eval, QCond.eval, QExpr.eval, envM_I, envM_U, envM_R, envM_P]
  try simp [*, cast_add_eq_zero_iff]
  try first
    | done
    | ring1
    | (field_simp; done)
    | (field_simp; ring1)
    | (push_cast; ring1)
    | (push_cast; field_simp; ring1)
    | (norm_num; done)))

end Panoptica.MetricCode
