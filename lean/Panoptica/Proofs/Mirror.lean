/-
  C11, exchanging prediction and reference: the instance `φ = swapPair`, `g = swapCand` of Proofs/Transport.lean.
  A matched reference `r` corresponds to the prediction matched to it.
-/
import Panoptica.Proofs.Transport
import Panoptica.Properties.C11
namespace Panoptica
namespace Mirror
open Panoptica.C11 Panoptica.Transport

def swapPair (e : Lab × Lab) : Lab × Lab := (e.2, e.1)

theorem swapPair_swapPair (e : Lab × Lab) : swapPair (swapPair e) = e := rfl

theorem mem_map_swapPair (M : List (Lab × Lab)) (a b : Lab) :
    (a, b) ∈ M.map swapPair ↔ (b, a) ∈ M := by
  rw [List.mem_map]
  constructor
  · rintro ⟨e, he, h⟩
    have : e = (b, a) := by
      have := congrArg swapPair h
      rw [swapPair_swapPair] at this
      exact this
    rw [← this]; exact he
  · intro h
    exact ⟨(b, a), h, rfl⟩

theorem nodup_map_on {α β : Type} (f : α → β) (l : List α)
    (hinj : ∀ x ∈ l, ∀ y ∈ l, f x = f y → x = y) (h : l.Nodup) : (l.map f).Nodup := h.map_on hinj

/-! ### candidates of the mirrored pair -/

theorem metricOn_swap (m : Metric) (hm : m = .IOU ∨ m = .DSC) (s : List Nat) (pred ref : Flat) (r p : Lab) :
    metricOn m ⟨s, ref⟩ ⟨s, pred⟩ p [r] = metricOn m ⟨s, pred⟩ ⟨s, ref⟩ r [p] := by
  rcases hm with rfl | rfl
  · simp only [metricOn]; rw [iouSel_swap pred ref r p]
  · simp only [metricOn]; rw [diceSel_swap pred ref r p]

theorem overlapPairs_swap (pred ref : Flat) (hb : ∀ x ∈ pred ++ ref, x < 2 ^ 32 - 1) :
    (overlapPairs ref pred (labelsOf pred)).Perm ((overlapPairs pred ref (labelsOf ref)).map swapPair) := by
  refine overlapPairs_perm_map pred ref ref pred swapPair hb (bounds_swap hb) ?_ (fun _ _ => and_comm)
    (fun _ _ _ _ h => congrArg swapPair h)
  rintro ⟨a, b⟩
  rw [← List.zip_swap, List.mem_map]
  constructor
  · rintro ⟨⟨p, r⟩, hz, h⟩
    cases h
    exact ⟨(b, a), hz, rfl⟩
  · rintro ⟨⟨r, p⟩, hx, h⟩
    cases h
    exact ⟨(p, r), hx, rfl⟩

theorem scoredCands_swap_bdd (m : Metric) (hm : m = .IOU ∨ m = .DSC) (s : List Nat) (pred ref : Flat)
    (hlen : pred.length = ref.length) (hb : ∀ x ∈ pred ++ ref, x < 2 ^ 32 - 1) :
    (scoredCands m ⟨s, ref⟩ ⟨s, pred⟩).Perm ((scoredCands m ⟨s, pred⟩ ⟨s, ref⟩).map swapCand) :=
  scoredCands_perm_map m ⟨s, pred⟩ ⟨s, ref⟩ ⟨s, ref⟩ ⟨s, pred⟩ swapPair (overlapPairs_swap pred ref hb)
    fun x _ => metricOn_swap m hm s pred ref x.1 x.2

/-! ### the label map of the mirrored pair -/

theorem CandMap.swap {S : Type} {cs : List (Cand S)} : CandMap cs (swapCand (S := S)) swapPair :=
  ⟨fun _ _ => rfl, fun _ _ => rfl, fun _ _ _ _ h => congrArg swapPair h⟩

theorem competes_swap {S : Type} (a b : Cand S) : C03.competes (swapCand a) (swapCand b) = C03.competes a b :=
  Bool.or_comm ..

theorem runMatcher_swap (mc : MatcherCfg) (hk : mc.kind = .naive false)
    (hm : mc.metric = .IOU ∨ mc.metric = .DSC)
    (ht : ∃ q, mc.thr = .exact q) (s : List Nat) (pred ref : Flat) (hlen : pred.length = ref.length)
    (hb : ∀ x ∈ pred ++ ref, x < 2 ^ 32 - 1)
    (hdet : C03.Determined Score.le mc.metric.decreasing mc.thr (scoredCands mc.metric ⟨s, pred⟩ ⟨s, ref⟩))
    (lm lm' : LMap) (h : runMatcher mc ⟨s, pred⟩ ⟨s, ref⟩ = .ok lm)
    (h' : runMatcher mc ⟨s, ref⟩ ⟨s, pred⟩ = .ok lm') :
    ∀ e, e ∈ lm.map swapPair ↔ e ∈ lm' := by
  rw [runMatcher_naive mc false hk] at h h'
  cases h
  cases h'
  exact naive_transport (scoredCands_exact _ hm _ _) ht CandMap.swap (fun a _ b _ => competes_swap a b)
    (scoredCands_swap_bdd mc.metric hm s pred ref hlen hb) hdet

/-! ### end to end -/

theorem refs_nodup {mc : MatcherCfg} (hk : mc.kind = .naive false) {P R : Arr} {lm : LMap}
    (h : runMatcher mc P R = .ok lm) : (lm.map (·.2)).Nodup := by
  rw [runMatcher_naive mc false hk] at h
  cases h
  exact C03.injective Score.le mc.metric.decreasing mc.thr _

/-- the two directions may use different integer widths (needed for semantic input) -/
theorem pipeline_mirror_core (cfg : Config) (mc : MatcherCfg)
    (hin : cfg.input = .UNMATCHED) (hmat : cfg.matcher = some mc) (hk : mc.kind = .naive false)
    (hmm : mc.metric = .IOU ∨ mc.metric = .DSC) (ht : ∃ q, mc.thr = .exact q)
    (hms : ∀ m ∈ cfg.evalMetrics, m = .IOU ∨ m = .DSC)
    (bits bits₂ : Nat) (s : List Nat)
    (pred ref : Flat) (hlen : pred.length = ref.length) (hb : ∀ x ∈ pred ++ ref, x < 2 ^ 32 - 1)
    (hp : labelsOf pred ≠ []) (hr : labelsOf ref ≠ [])
    (hdet : C03.Determined Score.le mc.metric.decreasing mc.thr (scoredCands mc.metric ⟨s, pred⟩ ⟨s, ref⟩))
    (out out' : PipeOut) (h : pipeline cfg bits ⟨s, pred⟩ ⟨s, ref⟩ = .ok out)
    (h' : pipeline cfg bits₂ ⟨s, ref⟩ ⟨s, pred⟩ = .ok out') :
    out'.tp = out.tp ∧ out'.nRef = out.nPred ∧ out'.nPred = out.nRef ∧
    ∀ m ∈ cfg.evalMetrics, ∀ vals vals', (m, vals) ∈ out.lists → (m, vals') ∈ out'.lists → vals.Perm vals' := by
  obtain ⟨lm, hrun, hG, rfl⟩ := Values.pipeline_eval cfg bits s pred ref mc hin hmat hlen hb hp hr out h
  obtain ⟨lm', hrun', hG', rfl⟩ :=
    Values.pipeline_eval cfg bits₂ s ref pred mc hin hmat hlen.symm (bounds_swap hb) hr hp out' h'
  have hrel := runMatcher_swap mc hk hmm ht s pred ref hlen hb hdet lm lm' hrun hrun'
  have hsingle := predsOf_single lm (refs_nodup hk hrun)
  -- `γ r` is the prediction matched to `r`
  obtain ⟨htp, hl⟩ := evalMatched_perm Score.le cfg.evalMetrics cfg.decision
    (dictsOf_perm cfg.evalMetrics s swapPair (fun r => (lm.predsOf r).headD 0) hG hG' hrel
      (fun e he => by rw [hsingle e.1 e.2 he]; rfl)
      (fun e he e' he' hh => by
        rw [hsingle e.1 e.2 he, hsingle e'.1 e'.2 he'] at hh
        exact hG.functional e he e' he' hh)
      (fun e he m hm => by
        rw [hsingle e.1 e.2 he, List.headD_cons, predsOf_single lm' (refs_nodup hk hrun') e.2 e.1
          ((hrel _).1 (List.mem_map_of_mem (f := swapPair) he))]
        exact metricOn_swap m (hms m hm) s pred ref e.2 e.1))
  exact ⟨htp, (rf_length hG (refs_nodup hk hrun)).symm, rf_length hG' (refs_nodup hk hrun'), hl⟩

end Mirror
end Panoptica
