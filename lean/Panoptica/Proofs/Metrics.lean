/- the rational side of C06: the metrics on masks as quotients of counts, and quotients of naturals -/
import Panoptica.Proofs.Pairs
import Mathlib.Tactic.FieldSimp
import Mathlib.Tactic.Linarith
import Mathlib.Tactic.Ring
import Mathlib.Tactic.Positivity
import Mathlib.Algebra.Order.Field.Basic
import Mathlib.Data.Rat.Cast.Order
namespace Panoptica
open Panoptica.Spec

/-! `x / 0 = 0` in `Rat`: the code's zero guards disappear -/

theorem iou_eq (X Y : List Bool) :
    iou (maskVals X) (maskVals Y) = (cardInter X Y : Rat) / (cardUnion X Y : Rat) := by
  simp only [iou, unionCount_maskVals, interCount_maskVals]
  split <;> simp_all

theorem dice_eq (X Y : List Bool) :
    dice (maskVals X) (maskVals Y) = ((2 * cardInter X Y : Nat) : Rat) / ((card X + card Y : Nat) : Rat) := by
  simp only [dice, sumVals_maskVals, interCount_maskVals]
  split <;> simp_all

/-! quotients of naturals -/

theorem natDiv_unit {a b : Nat} (h : a ≤ b) : 0 ≤ (a : Rat) / b ∧ (a : Rat) / b ≤ 1 :=
  ⟨div_nonneg (Nat.cast_nonneg _) (Nat.cast_nonneg _),
   div_le_one_of_le₀ (Nat.cast_le.2 h) (Nat.cast_nonneg _)⟩

theorem natDiv_eq_one_iff {a b : Nat} : (a : Rat) / b = 1 ↔ a = b ∧ 0 < b := by
  rcases Nat.eq_zero_or_pos b with rfl | hb
  · simp
  · rw [div_eq_one_iff_eq (Nat.cast_ne_zero.2 (by omega)), Nat.cast_inj]; simp [hb]

theorem natDiv_le_natDiv {a b c d : Nat} (hb : 0 < b) (hd : 0 < d) (h : a * d ≤ c * b) :
    (a : Rat) / b ≤ (c : Rat) / d := by
  have hb' : (0 : Rat) < b := Nat.cast_pos.2 hb
  have hd' : (0 : Rat) < d := Nat.cast_pos.2 hd
  have h' : (a : Rat) * d ≤ c * b := by rw [← Nat.cast_mul, ← Nat.cast_mul]; exact Nat.cast_le.2 h
  exact (div_le_div_iff₀ hb' hd').2 h'

end Panoptica
