/- best-first processing of the merge matcher (C14Best): the same invariant, the same fold principle -/
import Panoptica.Proofs.Merge
namespace Panoptica

section
variable {S : Type} (le : S → S → Bool) (dec : Bool) (thr : S) (comb : Lab → List Lab → S)

/-- with the candidates processed best-first, the recorded score of a matched reference is at least as good
    as the own score of each of its candidates seen so far whose prediction did not go elsewhere -/
def BestFree (s : List (Cand S)) (st : MergeState S) : Prop :=
  ∀ r x, st.scores.get? r = some x → ∀ c ∈ s, c.ref = r →
    (∃ r', r' ≠ r ∧ (c.pred, r') ∈ st.lmap) ∨ beats le dec x c.score = true

theorem mergeLoop_bestFree
    (hrefl : ∀ a, le a a = true)
    (htrans : ∀ a b c, le a b = true → le b c = true → le a c = true)
    {cs : List (Cand S)} (hcs : cs.Pairwise (fun a b => beats le dec a.score b.score = true)) :
    BestFree le dec cs (mergeLoop le dec thr comb cs) := by
  have tr : ∀ {a b c : S}, beats le dec a b = true → beats le dec b c = true → beats le dec a c = true :=
    beats_trans' htrans
  -- carried along: the invariant with `Q c x := x is at least as good as c's own score`
  refine (foldl_sorted_inv _ (fun s st => MergeInv le dec thr comb (fun c x => beats le dec x c.score = true) s st ∧
    BestFree le dec s st) hcs ⟨MergeInv.init le dec thr comb _, fun _ _ h => (nomatch h)⟩ ?_).2
  rintro s a st - ha ⟨h, hbf⟩
  refine ⟨h.step a (fun _ => beats_refl hrefl _) (fun _ _ _ hb hs => tr (strictlyBetter_iff.1 hs).1 hb), ?_⟩
  -- the founder of a matched reference came earlier, so its score bounds `a`'s
  have hfound : ∀ x, st.scores.get? a.ref = some x → beats le dec x a.score = true := fun x hx => by
    obtain ⟨c0, hc0, _, _, _, hq⟩ := h.founder _ x hx
    exact tr hq (ha c0 hc0)
  rcases mergeStep_cases le dec thr comb st a with ⟨e, -⟩ | ⟨-, x, e, hx⟩ <;> rw [e]
  · intro r y hy c hc hr
    rcases List.mem_append.1 hc with hc | hc
    · exact hbf r y hy c hc hr
    · rw [List.mem_singleton] at hc; subst hc; subst hr; exact .inr (hfound y hy)
  · intro r y hy c hc hr
    have mono : (∃ r', r' ≠ r ∧ (c.pred, r') ∈ st.lmap) →
        ∃ r', r' ≠ r ∧ (c.pred, r') ∈ st.lmap ++ [(a.pred, a.ref)] :=
      fun ⟨r', h1, h2⟩ => ⟨r', h1, List.mem_append_left _ h2⟩
    simp only [ScoreRef.get?_set] at hy
    by_cases hra : r = a.ref
    · simp only [hra, if_true, Option.some.injEq] at hy
      subst hy
      rcases hx with ⟨hun, hb, rfl⟩ | ⟨_, old, ho, rfl, hsb⟩
      · -- founding: an earlier candidate of this reference was eligible too, so its prediction went elsewhere
        rcases List.mem_append.1 hc with hc | hc
        · have hbc : beats le dec c.score thr = true := tr (ha c hc) hb
          obtain ⟨r', h1, h2⟩ := h.unmatched c hc hbc (by rw [hr, hra]; exact hun)
          exact .inl (mono ⟨r', hr ▸ h1, h2⟩)
        · rw [List.mem_singleton] at hc; subst hc; exact .inr (beats_refl hrefl _)
      · -- merging: the new score is better than the old one, which bounded everything so far
        have hup := (strictlyBetter_iff.1 hsb).1
        rcases List.mem_append.1 hc with hc | hc
        · exact (hbf _ old ho c hc (hr.trans hra)).elim (fun h' => .inl (mono (hra ▸ h'))) (fun h' => .inr (tr hup h'))
        · rw [List.mem_singleton] at hc; subst hc; exact .inr (tr hup (hfound old ho))
    · simp only [hra, if_false] at hy
      rcases List.mem_append.1 hc with hc | hc
      · exact (hbf r y hy c hc hr).imp mono id
      · rw [List.mem_singleton] at hc; subst hc; exact absurd hr.symm hra

end

end Panoptica
