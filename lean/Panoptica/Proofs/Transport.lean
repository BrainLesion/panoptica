/-
  Transport of the candidates, of the matcher's label map and of the evaluation along a map `φ` of label pairs
  `(pred, ref)` that keeps the scores. A renaming `(p, r) ↦ (σ p, τ r)` (C09, Proofs/RelabelE2E.lean) and the
  exchange `(p, r) ↦ (r, p)` (C11, Proofs/Mirror.lean) are the two instances; the threshold matchers go through
  uniqueness of the valid matching (`C03.unique`, `C03.unique_m2o`), which is stated for a total preorder, so
  `Score.le` is first replaced by `leT`, with which it agrees on exact scores.
-/
import Panoptica.Properties.C01Values
import Panoptica.Properties.C03UniqueM2O
namespace Panoptica
namespace Transport

/-! ### lists -/

/-- the one list fact behind every "… is the image of …, up to order" of this region -/
theorem perm_map_of_mem_iff {α β : Type} (f : α → β) {l : List α} {l' : List β}
    (hnd : l.Nodup) (hnd' : l'.Nodup) (hinj : ∀ x ∈ l, ∀ y ∈ l, f x = f y → x = y)
    (hmem : ∀ y, y ∈ l' ↔ ∃ x ∈ l, f x = y) : l'.Perm (l.map f) :=
  (List.perm_ext_iff_of_nodup hnd' (hnd.map_on hinj)).2 fun y => by rw [hmem, List.mem_map]

/-! ### a total preorder on `Score` that agrees with `Score.le` on exact scores -/

def IsExact (x : Score) : Prop := ∃ q, x = .exact q

/-- exact scores by value, every non-exact score above all of them -/
def leT : Score → Score → Bool
  | .exact a, .exact b => decide (a ≤ b)
  | .exact _, _ => true
  | _, .exact _ => false
  | _, _ => true

theorem leT_total (a b : Score) : leT a b = true ∨ leT b a = true := by
  cases a <;> cases b <;> simp [leT]
  exact Rat.le_total

theorem leT_trans (a b c : Score) (hab : leT a b = true) (hbc : leT b c = true) : leT a c = true := by
  cases a <;> cases b <;> cases c <;> simp_all [leT]
  exact Rat.le_trans hab hbc

theorem leT_exact {a b : Score} (ha : IsExact a) (hb : IsExact b) : Score.le a b = leT a b := by
  obtain ⟨x, rfl⟩ := ha
  obtain ⟨y, rfl⟩ := hb
  rfl

/-! ### the loop and the sort only see the Boolean results of `le` -/

section congr
variable {S : Type} (le1 le2 : S → S → Bool) (dec : Bool) (thr : S)

theorem sortBest_congr (cs : List (Cand S))
    (h : ∀ a ∈ cs, ∀ b ∈ cs, le1 a.score b.score = le2 a.score b.score) :
    sortBest le1 dec cs = sortBest le2 dec cs := by
  unfold sortBest
  have := List.map_mergeSort
    (r := fun (a b : Cand S) => if dec then le1 a.score b.score else le1 b.score a.score)
    (s := fun (a b : Cand S) => if dec then le2 a.score b.score else le2 b.score a.score)
    (f := id) (l := cs)
    (by
      intro a ha b hb
      simp only [id]
      rw [h a ha b hb, h b hb a ha])
  simpa using this

theorem naiveFold_congr (m2o : Bool) (cs : List (Cand S))
    (h : ∀ c ∈ cs, beats le1 dec c.score thr = beats le2 dec c.score thr) (m : LMap) :
    cs.foldl (naiveStep le1 dec thr m2o) m = cs.foldl (naiveStep le2 dec thr m2o) m := by
  induction cs generalizing m with
  | nil => rfl
  | cons c cs ih =>
    have hc : naiveStep le1 dec thr m2o m c = naiveStep le2 dec thr m2o m c := by
      unfold naiveStep
      rw [h c (List.mem_cons_self ..)]
    rw [List.foldl_cons, List.foldl_cons, hc]
    exact ih (fun c' hc' => h c' (List.mem_cons_of_mem _ hc')) _

theorem naiveLoop_congr (m2o : Bool) (cs : List (Cand S))
    (h : ∀ c ∈ cs, beats le1 dec c.score thr = beats le2 dec c.score thr) :
    naiveLoop le1 dec thr m2o cs = naiveLoop le2 dec thr m2o cs :=
  naiveFold_congr le1 le2 dec thr m2o cs h []

theorem determined_congr (cs : List (Cand S))
    (hle : ∀ a ∈ cs, ∀ b ∈ cs, le1 a.score b.score = le2 a.score b.score)
    (hb : ∀ c ∈ cs, beats le1 dec c.score thr = beats le2 dec c.score thr)
    (hd : C03.Determined le1 dec thr cs) : C03.Determined le2 dec thr cs where
  keysNodup := hd.keysNodup
  distinct := by
    intro a ha b hb' hne hcomp h1 h2
    rw [← hb a ha] at h1
    rw [← hb b hb'] at h2
    have := hd.distinct a ha b hb' hne hcomp h1 h2
    simpa only [C03.strictlyBetterC, C03.betterEq, hle a ha b hb', hle b hb' a ha] using this



theorem determinedM2O_congr (cs : List (Cand S))
    (hle : ∀ a ∈ cs, ∀ b ∈ cs, le1 a.score b.score = le2 a.score b.score)
    (hb : ∀ c ∈ cs, beats le1 dec c.score thr = beats le2 dec c.score thr)
    (hd : C03.DeterminedM2O le1 dec thr cs) : C03.DeterminedM2O le2 dec thr cs where
  keysNodup := hd.keysNodup
  distinct := by
    intro a ha b hb' hne hp h1 h2
    rw [← hb a ha] at h1
    rw [← hb b hb'] at h2
    have := hd.distinct a ha b hb' hne hp h1 h2
    simpa only [C03.strictlyBetterC, C03.betterEq, hle a ha b hb', hle b hb' a ha] using this

end congr

theorem metricOn_exact (m : Metric) (hm : m = .IOU ∨ m = .DSC) (pred ref : Arr) (r : Lab) (ps : List Lab) :
    IsExact (metricOn m pred ref r ps) := by
  rcases hm with rfl | rfl
  · exact ⟨_, rfl⟩
  · exact ⟨_, rfl⟩

theorem bounds_left {pred ref : Flat} (hb : ∀ x ∈ pred ++ ref, x < 2 ^ 32 - 1) :
    ∀ x ∈ pred, x < 2 ^ 32 - 1 := fun x hx => hb x (List.mem_append_left _ hx)

theorem bounds_right {pred ref : Flat} (hb : ∀ x ∈ pred ++ ref, x < 2 ^ 32 - 1) :
    ∀ x ∈ ref, x < 2 ^ 32 - 1 := fun x hx => hb x (List.mem_append_right _ hx)

theorem bounds_swap {pred ref : Flat} (hb : ∀ x ∈ pred ++ ref, x < 2 ^ 32 - 1) :
    ∀ x ∈ ref ++ pred, x < 2 ^ 32 - 1 := by
  intro x hx
  apply hb x
  rw [List.mem_append] at hx ⊢
  exact hx.symm

theorem runMatcher_naive (mc : MatcherCfg) (m2o : Bool) (hk : mc.kind = .naive m2o) (pred ref : Arr) :
    runMatcher mc pred ref = .ok (naiveLoop Score.le mc.metric.decreasing mc.thr m2o
      (sortBest Score.le mc.metric.decreasing (scoredCands mc.metric pred ref))) := by
  unfold runMatcher
  rw [hk]
  exact C03.naive_total Score.le mc.metric.decreasing mc.thr m2o _

/-! ### what every matcher lemma needs to know about the candidates of a scene -/

theorem scoredCands_exact (m : Metric) (hm : m = .IOU ∨ m = .DSC) (P R : Arr) :
    ∀ c ∈ scoredCands m P R, IsExact c.score := fun c hc => by
  rw [C01.scoredCands_score m _ _ c hc]; exact metricOn_exact m hm _ _ _ _

theorem cand_mem (m : Metric) (s : List Nat) (pred ref : Flat) (hlen : pred.length = ref.length)
    (hb : ∀ x ∈ pred ++ ref, x < 2 ^ 32 - 1) :
    ∀ c ∈ scoredCands m ⟨s, pred⟩ ⟨s, ref⟩, c.pred ∈ pred ∧ c.ref ∈ ref := fun c hc => by
  obtain ⟨_, _, hov⟩ := (C01.scoredCands_spec m ⟨s, pred⟩ ⟨s, ref⟩ hlen
    (fun x hx => lt32_of_lt x (bounds_left hb x hx)) (bounds_right hb) c.ref c.pred).1 ⟨c, hc, rfl, rfl⟩
  exact List.of_mem_zip ((overlaps_iff pred ref c.ref c.pred).1 hov)

/-! ### (c) candidates under a map of label pairs -/

section cand
variable {S : Type} (le : S → S → Bool) (dec : Bool) (thr : S)

/-- `g` moves the label pair `(pred, ref)` of every candidate of `cs` by `φ` and keeps its score; `φ` is injective
    on those pairs -/
structure CandMap (cs : List (Cand S)) (g : Cand S → Cand S) (φ : Lab × Lab → Lab × Lab) : Prop where
  score : ∀ c ∈ cs, (g c).score = c.score
  key : ∀ c ∈ cs, ((g c).pred, (g c).ref) = φ (c.pred, c.ref)
  inj : ∀ a ∈ cs, ∀ b ∈ cs, φ (a.pred, a.ref) = φ (b.pred, b.ref) → (a.pred, a.ref) = (b.pred, b.ref)

variable {le dec thr} {cs cs' : List (Cand S)} {g : Cand S → Cand S} {φ : Lab × Lab → Lab × Lab}

theorem CandMap.mem_map_key (hg : CandMap cs g φ) {M : List (Lab × Lab)} {c : Cand S} (hc : c ∈ cs)
    (hsub : ∀ e ∈ M, ∃ c ∈ cs, c.pred = e.1 ∧ c.ref = e.2) :
    ((g c).pred, (g c).ref) ∈ M.map φ ↔ (c.pred, c.ref) ∈ M := by
  rw [hg.key c hc, List.mem_map]
  constructor
  · rintro ⟨e, he, h⟩
    obtain ⟨c0, hc0, h1, h2⟩ := hsub e he
    have : e = (c0.pred, c0.ref) := by rw [h1, h2]
    rw [this] at h he
    rw [← hg.inj c0 hc0 c hc h]; exact he
  · exact fun h => ⟨_, h, rfl⟩

theorem CandMap.beats (hg : CandMap cs g φ) {c : Cand S} (hc : c ∈ cs) :
    beats le dec (g c).score thr = beats le dec c.score thr := by rw [hg.score c hc]

theorem CandMap.strictlyBetterC (hg : CandMap cs g φ) {a b : Cand S} (ha : a ∈ cs) (hb : b ∈ cs) :
    C03.strictlyBetterC le dec (g a) (g b) = C03.strictlyBetterC le dec a b := by
  simp only [C03.strictlyBetterC, C03.betterEq, hg.score a ha, hg.score b hb]

/-- one-to-one: what `φ` has to respect is "the two pairs share a component" -/
theorem Determined.map (hg : CandMap cs g φ)
    (hcomp : ∀ a ∈ cs, ∀ b ∈ cs, C03.competes (g a) (g b) = C03.competes a b)
    (hperm : cs'.Perm (cs.map g)) (hd : C03.Determined le dec thr cs) : C03.Determined le dec thr cs' where
  keysNodup := by
    refine (hperm.map _).nodup_iff.2 ?_
    have : (cs.map g).map (fun c => (c.pred, c.ref)) = (cs.map (fun c => (c.pred, c.ref))).map φ := by
      rw [List.map_map, List.map_map]
      exact List.map_congr_left fun c hc => hg.key c hc
    rw [this]
    refine hd.keysNodup.map_on ?_
    intro x hx y hy hxy
    obtain ⟨a, ha, rfl⟩ := List.mem_map.1 hx
    obtain ⟨b, hb, rfl⟩ := List.mem_map.1 hy
    exact hg.inj a ha b hb hxy
  distinct := by
    intro a ha b hb hne hc h1 h2
    obtain ⟨a0, ha0, rfl⟩ := List.mem_map.1 (hperm.mem_iff.1 ha)
    obtain ⟨b0, hb0, rfl⟩ := List.mem_map.1 (hperm.mem_iff.1 hb)
    rw [hg.beats ha0] at h1
    rw [hg.beats hb0] at h2
    rw [hcomp a0 ha0 b0 hb0] at hc
    rw [hg.strictlyBetterC ha0 hb0, hg.strictlyBetterC hb0 ha0]
    refine hd.distinct a0 ha0 b0 hb0 (fun h => hne ?_) hc h1 h2
    rw [hg.key a0 ha0, hg.key b0 hb0, h]

theorem ValidMatching.map (hg : CandMap cs g φ)
    (hcomp : ∀ a ∈ cs, ∀ b ∈ cs, C03.competes (g a) (g b) = C03.competes a b)
    (hperm : cs'.Perm (cs.map g)) {M : List (Lab × Lab)} (hM : C03.ValidMatching le dec thr cs M) :
    C03.ValidMatching le dec thr cs' (M.map φ) := by
  have hsub : ∀ e ∈ M, ∃ c ∈ cs, c.pred = e.1 ∧ c.ref = e.2 := fun e he =>
    (hM.sound e he).imp fun c h => ⟨h.1, h.2.1, h.2.2.1⟩
  -- two assigned pairs whose images share a component are equal
  have hone : ∀ (π : Lab × Lab → Lab), (π = Prod.fst ∨ π = Prod.snd) → ((M.map φ).map π).Nodup := by
    intro π hπ
    rw [List.map_map]
    refine (nodup_of_nodup_map _ _ hM.predsNodup).map_on ?_
    intro e he e' he' h
    obtain ⟨c, hc, h1, h2⟩ := hsub e he
    obtain ⟨c', hc', h1', h2'⟩ := hsub e' he'
    have ek : φ e = ((g c).pred, (g c).ref) := by rw [hg.key c hc, h1, h2]
    have ek' : φ e' = ((g c').pred, (g c').ref) := by rw [hg.key c' hc', h1', h2']
    have : C03.competes c c' = true := by
      rw [← hcomp c hc c' hc']
      simp only [Function.comp_apply, ek, ek'] at h
      simp only [C03.competes, Bool.or_eq_true, beq_iff_eq]
      rcases hπ with rfl | rfl
      · exact .inl h
      · exact .inr h
    simp only [C03.competes, Bool.or_eq_true, beq_iff_eq, h1, h2, h1', h2'] at this
    rcases this with h | h
    · exact inj_of_nodup_map (·.1) M hM.predsNodup e he e' he' h
    · exact inj_of_nodup_map (·.2) M hM.refsNodup e he e' he' h
  refine ⟨?_, hone _ (.inl rfl), hone _ (.inr rfl), ?_⟩
  · intro e he
    obtain ⟨e0, he0, rfl⟩ := List.mem_map.1 he
    obtain ⟨c, hc, h1, h2, hb⟩ := hM.sound e0 he0
    have := hg.key c hc
    rw [h1, h2] at this
    exact ⟨g c, hperm.mem_iff.2 (List.mem_map_of_mem hc), congrArg Prod.fst this, congrArg Prod.snd this,
      by rw [hg.beats hc]; exact hb⟩
  · intro c hc hb hnot
    obtain ⟨c0, hc0, rfl⟩ := List.mem_map.1 (hperm.mem_iff.1 hc)
    rw [hg.beats hc0] at hb
    rw [hg.mem_map_key hc0 hsub] at hnot
    obtain ⟨c1, hc1, hin, hc, hs⟩ := hM.stable c0 hc0 hb hnot
    exact ⟨g c1, hperm.mem_iff.2 (List.mem_map_of_mem hc1), (hg.mem_map_key hc1 hsub).2 hin,
      by rw [hcomp c1 hc1 c0 hc0]; exact hc, by rw [hg.strictlyBetterC hc1 hc0]; exact hs⟩

/-- many-to-one: what `φ` has to respect is "the two pairs have the same prediction" -/
theorem DeterminedM2O.map (hg : CandMap cs g φ)
    (hpred : ∀ a ∈ cs, ∀ b ∈ cs, (g a).pred = (g b).pred ↔ a.pred = b.pred)
    (hperm : cs'.Perm (cs.map g)) (hd : C03.DeterminedM2O le dec thr cs) : C03.DeterminedM2O le dec thr cs' where
  keysNodup := by
    refine (hperm.map _).nodup_iff.2 ?_
    have : (cs.map g).map (fun c => (c.pred, c.ref)) = (cs.map (fun c => (c.pred, c.ref))).map φ := by
      rw [List.map_map, List.map_map]
      exact List.map_congr_left fun c hc => hg.key c hc
    rw [this]
    refine hd.keysNodup.map_on ?_
    intro x hx y hy hxy
    obtain ⟨a, ha, rfl⟩ := List.mem_map.1 hx
    obtain ⟨b, hb, rfl⟩ := List.mem_map.1 hy
    exact hg.inj a ha b hb hxy
  distinct := by
    intro a ha b hb hne hp h1 h2
    obtain ⟨a0, ha0, rfl⟩ := List.mem_map.1 (hperm.mem_iff.1 ha)
    obtain ⟨b0, hb0, rfl⟩ := List.mem_map.1 (hperm.mem_iff.1 hb)
    rw [hg.beats ha0] at h1
    rw [hg.beats hb0] at h2
    rw [hg.strictlyBetterC ha0 hb0, hg.strictlyBetterC hb0 ha0]
    refine hd.distinct a0 ha0 b0 hb0 (fun h => hne ?_) ((hpred a0 ha0 b0 hb0).1 hp) h1 h2
    rw [hg.key a0 ha0, hg.key b0 hb0, h]

theorem ValidMatchingM2O.map (hg : CandMap cs g φ)
    (hpred : ∀ a ∈ cs, ∀ b ∈ cs, (g a).pred = (g b).pred ↔ a.pred = b.pred)
    (hperm : cs'.Perm (cs.map g)) {M : List (Lab × Lab)} (hM : C03.ValidMatchingM2O le dec thr cs M) :
    C03.ValidMatchingM2O le dec thr cs' (M.map φ) := by
  have hsub : ∀ e ∈ M, ∃ c ∈ cs, c.pred = e.1 ∧ c.ref = e.2 := fun e he =>
    (hM.sound e he).imp fun c h => ⟨h.1, h.2.1, h.2.2.1⟩
  refine ⟨?_, ?_, ?_⟩
  · intro e he
    obtain ⟨e0, he0, rfl⟩ := List.mem_map.1 he
    obtain ⟨c, hc, h1, h2, hb⟩ := hM.sound e0 he0
    have := hg.key c hc
    rw [h1, h2] at this
    exact ⟨g c, hperm.mem_iff.2 (List.mem_map_of_mem hc), congrArg Prod.fst this, congrArg Prod.snd this,
      by rw [hg.beats hc]; exact hb⟩
  · rw [List.map_map]
    refine (nodup_of_nodup_map _ _ hM.predsNodup).map_on ?_
    intro e he e' he' h
    obtain ⟨c, hc, h1, h2⟩ := hsub e he
    obtain ⟨c', hc', h1', h2'⟩ := hsub e' he'
    have ek : φ e = ((g c).pred, (g c).ref) := by rw [hg.key c hc, h1, h2]
    have ek' : φ e' = ((g c').pred, (g c').ref) := by rw [hg.key c' hc', h1', h2']
    simp only [Function.comp_apply, ek, ek'] at h
    have := (hpred c hc c' hc').1 h
    rw [h1, h1'] at this
    exact inj_of_nodup_map (·.1) M hM.predsNodup e he e' he' this
  · intro c hc hb hnot
    obtain ⟨c0, hc0, rfl⟩ := List.mem_map.1 (hperm.mem_iff.1 hc)
    rw [hg.beats hc0] at hb
    rw [hg.mem_map_key hc0 hsub] at hnot
    obtain ⟨c1, hc1, hin, hp, hs⟩ := hM.stable c0 hc0 hb hnot
    exact ⟨g c1, hperm.mem_iff.2 (List.mem_map_of_mem hc1), (hg.mem_map_key hc1 hsub).2 hin,
      (hpred c1 hc1 c0 hc0).2 hp, by rw [hg.strictlyBetterC hc1 hc0]; exact hs⟩

end cand

/-! ### (c) the threshold matcher on exact scores: `Score.le` may be read as the total preorder `leT` -/

theorem naiveMatch_exact (dec : Bool) (thr : Score) (m2o : Bool) (cs : List (Cand Score))
    (hex : ∀ c ∈ cs, IsExact c.score) (hthr : IsExact thr) :
    naiveLoop Score.le dec thr m2o (sortBest Score.le dec cs) =
      naiveLoop leT dec thr m2o (sortBest leT dec cs) := by
  rw [sortBest_congr Score.le leT dec cs fun a ha b hb => leT_exact (hex a ha) (hex b hb)]
  refine naiveLoop_congr _ _ _ _ _ _ fun c hc => ?_
  have hc' : IsExact c.score := hex c (List.mem_mergeSort.1 hc)
  unfold beats
  rw [leT_exact hc' hthr, leT_exact hthr hc']

theorem beats_exact {dec : Bool} {thr : Score} {cs : List (Cand Score)}
    (hex : ∀ c ∈ cs, IsExact c.score) (hthr : IsExact thr) :
    ∀ c ∈ cs, beats Score.le dec c.score thr = beats leT dec c.score thr := fun c hc => by
  unfold beats
  rw [leT_exact (hex c hc) hthr, leT_exact hthr (hex c hc)]

/-- the label map of the one-to-one threshold matcher on the image candidates is the image of the label map -/
theorem naive_transport {dec : Bool} {thr : Score} {cs cs' : List (Cand Score)} {g : Cand Score → Cand Score}
    {φ : Lab × Lab → Lab × Lab} (hex : ∀ c ∈ cs, IsExact c.score) (hthr : IsExact thr)
    (hg : CandMap cs g φ) (hcomp : ∀ a ∈ cs, ∀ b ∈ cs, C03.competes (g a) (g b) = C03.competes a b)
    (hperm : cs'.Perm (cs.map g)) (hdet : C03.Determined Score.le dec thr cs) :
    ∀ e, e ∈ (naiveLoop Score.le dec thr false (sortBest Score.le dec cs)).map φ ↔
      e ∈ naiveLoop Score.le dec thr false (sortBest Score.le dec cs') := by
  have hex' : ∀ c ∈ cs', IsExact c.score := fun c hc => by
    obtain ⟨c0, hc0, rfl⟩ := List.mem_map.1 (hperm.mem_iff.1 hc)
    rw [hg.score c0 hc0]; exact hex c0 hc0
  rw [naiveMatch_exact dec thr false cs hex hthr, naiveMatch_exact dec thr false cs' hex' hthr]
  have hdT := determined_congr Score.le leT dec thr cs
    (fun a ha b hb => leT_exact (hex a ha) (hex b hb)) (beats_exact hex hthr) hdet
  exact C03.unique leT dec thr leT_total leT_trans cs' (Determined.map hg hcomp hperm hdT) _
    (ValidMatching.map hg hcomp hperm (C03.naive_valid leT dec thr leT_total leT_trans cs hdT))

/-- the same for the many-to-one threshold matcher -/
theorem naive_transport_m2o {dec : Bool} {thr : Score} {cs cs' : List (Cand Score)}
    {g : Cand Score → Cand Score} {φ : Lab × Lab → Lab × Lab}
    (hex : ∀ c ∈ cs, IsExact c.score) (hthr : IsExact thr) (hg : CandMap cs g φ)
    (hpred : ∀ a ∈ cs, ∀ b ∈ cs, (g a).pred = (g b).pred ↔ a.pred = b.pred)
    (hperm : cs'.Perm (cs.map g)) (hdet : C03.DeterminedM2O Score.le dec thr cs) :
    ∀ e, e ∈ (naiveLoop Score.le dec thr true (sortBest Score.le dec cs)).map φ ↔
      e ∈ naiveLoop Score.le dec thr true (sortBest Score.le dec cs') := by
  have hex' : ∀ c ∈ cs', IsExact c.score := fun c hc => by
    obtain ⟨c0, hc0, rfl⟩ := List.mem_map.1 (hperm.mem_iff.1 hc)
    rw [hg.score c0 hc0]; exact hex c0 hc0
  rw [naiveMatch_exact dec thr true cs hex hthr, naiveMatch_exact dec thr true cs' hex' hthr]
  have hdT := determinedM2O_congr Score.le leT dec thr cs
    (fun a ha b hb => leT_exact (hex a ha) (hex b hb)) (beats_exact hex hthr) hdet
  exact C03.unique_m2o leT dec thr leT_total leT_trans cs' (DeterminedM2O.map hg hpred hperm hdT) _
    (ValidMatchingM2O.map hg hpred hperm (C03.naive_valid_m2o leT dec thr leT_total leT_trans cs hdT))

/-! ### instance counts after one-to-one relabelling -/

theorem labelsOf_map_perm (f : Lab → Lab) (a : Flat)
    (h0 : ∀ x ∈ a, (f x = 0 ↔ x = 0))
    (hinj : ∀ x ∈ labelsOf a, ∀ y ∈ labelsOf a, f x = f y → x = y) :
    (labelsOf (a.map f)).Perm ((labelsOf a).map f) := by
  refine perm_map_of_mem_iff f (labelsOf_nodup a) (labelsOf_nodup _) hinj fun x => ?_
  rw [mem_labelsOf, List.mem_map]
  constructor
  · rintro ⟨⟨y, hy, rfl⟩, hx0⟩
    exact ⟨y, (mem_labelsOf a y).2 ⟨hy, fun hy0 => hx0 ((h0 y hy).2 hy0)⟩, rfl⟩
  · rintro ⟨y, hy, rfl⟩
    obtain ⟨hya, hy0⟩ := (mem_labelsOf a y).1 hy
    exact ⟨⟨y, hya, rfl⟩, fun h => hy0 ((h0 y hya).1 h)⟩

theorem labelsOf_map_length (f : Lab → Lab) (a : Flat)
    (h0 : ∀ x ∈ a, (f x = 0 ↔ x = 0))
    (hinj : ∀ x ∈ labelsOf a, ∀ y ∈ labelsOf a, f x = f y → x = y) :
    (labelsOf (a.map f)).length = (labelsOf a).length := by
  rw [(labelsOf_map_perm f a h0 hinj).length_eq, List.length_map]

theorem rf_length {lm : LMap} {pred ref : Flat} (hg : Values.Good lm pred ref)
    (hrefs : (lm.map (·.2)).Nodup) :
    (labelsOf (pred.map (Values.rf lm pred ref))).length = (labelsOf pred).length := by
  have hlm0 : ∀ e ∈ lm, e.2 ≠ 0 := fun e he => ((mem_labelsOf ref _).1 (hg.vals e he)).2
  apply labelsOf_map_length
  · intro x hx
    constructor
    · intro h
      refine Classical.byContradiction fun hx0 => ?_
      exact C04.foreground_kept lm (labelsOf ref) (labelsOf pred) hlm0 x
        ((mem_labelsOf pred x).2 ⟨hx, hx0⟩) h
    · intro h
      rw [h]; exact Values.rf_zero hg
  · intro x hx y hy h
    rcases (C04.partition_preserved lm (labelsOf ref) (labelsOf pred) (labelsOf_nodup pred)
      hg.vals x y hx hy).1 h with h | ⟨r, h1, h2⟩
    · exact h
    · have e1 := Values.lookup_some_mem lm x r h1
      have e2 := Values.lookup_some_mem lm y r h2
      have := inj_of_nodup_map (fun e : Lab × Lab => e.2) lm hrefs _ e1 _ e2 rfl
      exact congrArg Prod.fst this

theorem predsOf_single (lm : LMap) (hrefs : (lm.map (·.2)).Nodup) (p r : Lab) (h : (p, r) ∈ lm) :
    lm.predsOf r = [p] := by
  induction lm with
  | nil => cases h
  | cons e l ih =>
    rw [List.map_cons, List.nodup_cons] at hrefs
    unfold LMap.predsOf at ih ⊢
    rcases List.mem_cons.1 h with h | h
    · subst h
      have hnone : l.filter (fun e => e.2 == r) = [] := by
        rw [List.filter_eq_nil_iff]
        intro e' he' heq
        apply hrefs.1
        have : e'.2 = r := by simpa using heq
        exact List.mem_map.2 ⟨e', he', this⟩
      rw [List.filter_cons]
      simp only [beq_self_eq_true, if_true, hnone, List.map_cons, List.map_nil]
    · have hne : (e.2 == r) = false := by
        rw [beq_eq_false_iff_ne]
        intro heq
        apply hrefs.1
        exact List.mem_map.2 ⟨(p, r), h, heq.symm⟩
      rw [List.filter_cons, hne]
      exact ih hrefs.2 h

/-! ### (b) candidates of the image scene -/

/-- the overlapping pairs `(ref, pred)` of a scene whose voxel pairs are the `ψ`-images of the voxel pairs
    of another, `ψ` injective on them and keeping "both labels are foreground" -/
theorem overlapPairs_perm_map (P R P' R' : Flat) (ψ : Lab × Lab → Lab × Lab)
    (hb : ∀ x ∈ P ++ R, x < 2 ^ 32 - 1) (hb' : ∀ x ∈ P' ++ R', x < 2 ^ 32 - 1)
    (hzip : ∀ y : Lab × Lab, (y.2, y.1) ∈ P'.zip R' ↔ ∃ x : Lab × Lab, (x.2, x.1) ∈ P.zip R ∧ ψ x = y)
    (hfg : ∀ x : Lab × Lab, (x.2, x.1) ∈ P.zip R → (((ψ x).1 ≠ 0 ∧ (ψ x).2 ≠ 0) ↔ (x.1 ≠ 0 ∧ x.2 ≠ 0)))
    (hinj : ∀ x y : Lab × Lab, (x.2, x.1) ∈ P.zip R → (y.2, y.1) ∈ P.zip R → ψ x = ψ y → x = y) :
    (overlapPairs P' R' (labelsOf R')).Perm ((overlapPairs P R (labelsOf R)).map ψ) := by
  have spec : ∀ {A B : Flat}, (∀ x ∈ A ++ B, x < 2 ^ 32 - 1) → ∀ x : Lab × Lab,
      x ∈ overlapPairs A B (labelsOf B) ↔ (x.1 ≠ 0 ∧ x.2 ≠ 0) ∧ (x.2, x.1) ∈ A.zip B := fun h x => by
    rw [show x = (x.1, x.2) from rfl, mem_overlapPairs _ _ (fun a ha => lt32_of_lt a (bounds_left h a ha))
      (bounds_right h), and_assoc]
  refine perm_map_of_mem_iff ψ (overlapPairsM_nodup ..) (overlapPairsM_nodup ..) ?_ ?_
  · intro x hx y hy
    exact hinj x y ((spec hb x).1 hx).2 ((spec hb y).1 hy).2
  · intro y
    rw [spec hb', hzip]
    constructor
    · rintro ⟨h0, x, hx, rfl⟩
      exact ⟨x, (spec hb x).2 ⟨(hfg x hx).1 h0, hx⟩, rfl⟩
    · rintro ⟨x, hx, rfl⟩
      obtain ⟨h0, hz⟩ := (spec hb x).1 hx
      exact ⟨(hfg x hz).2 h0, x, hz, rfl⟩

/-- once the overlapping pairs of the second scene are the `ψ`-image of those of the first and `ψ` keeps the
    score of each pair, the scored candidates are the image candidates -/
theorem scoredCands_perm_map (m : Metric) (P R P' R' : Arr) (ψ : Lab × Lab → Lab × Lab)
    (hop : (overlapPairs P'.data R'.data (labelsOf R'.data)).Perm
      ((overlapPairs P.data R.data (labelsOf R.data)).map ψ))
    (hsc : ∀ x ∈ overlapPairs P.data R.data (labelsOf R.data),
      metricOn m P' R' (ψ x).1 [(ψ x).2] = metricOn m P R x.1 [x.2]) :
    (scoredCands m P' R').Perm ((scoredCands m P R).map
      fun c => { score := c.score, ref := (ψ (c.ref, c.pred)).1, pred := (ψ (c.ref, c.pred)).2 }) := by
  unfold scoredCands
  refine (hop.map _).trans (List.Perm.of_eq ?_)
  rw [List.map_map, List.map_map]
  apply List.map_congr_left
  rintro ⟨r, p⟩ hx
  simp only [Function.comp_apply]
  rw [hsc _ hx]

/-! ### (d) evaluation -/

/-- `evalMatched` does not depend on the order of the instances, up to the order of each list -/
theorem evalMatched_perm {V : Type} (le : V → V → Bool) (ms : List Metric) (dec : Option (Metric × V))
    {d d' : List (List (Metric × V))} (h : d'.Perm d) :
    (evalMatched le ms dec d').1 = (evalMatched le ms dec d).1 ∧
    ∀ m ∈ ms, ∀ vals vals', (m, vals) ∈ (evalMatched le ms dec d).2 → (m, vals') ∈ (evalMatched le ms dec d').2 →
      vals.Perm vals' := by
  refine ⟨(h.filter _).length_eq, ?_⟩
  intro m _ vals vals' hv hv'
  obtain ⟨m1, _, heq1⟩ := List.mem_map.1 hv
  obtain ⟨m2, _, heq2⟩ := List.mem_map.1 hv'
  cases heq1
  cases heq2
  exact ((h.filter _).filterMap _).symm

theorem mem_matchedRefs {lm : LMap} {pred ref : Flat} (hG : Values.Good lm pred ref) (r : Lab) :
    r ∈ (labelsOf ref).filter (fun r => lm.containsRef r) ↔ ∃ e ∈ lm, e.2 = r := by
  rw [List.mem_filter, Values.containsRef_eq_true]
  exact ⟨fun h => h.2, fun h => ⟨by obtain ⟨e, he, rfl⟩ := h; exact hG.vals e he, h⟩⟩

/-- if the second label map is the `φ`-image of the first and `γ` says where `φ` sends a matched reference, the
    matched references of the second scene are the `γ`-images of those of the first -/
theorem matchedRefs_perm {pred ref pred' ref' : Flat} {lm lm' : LMap}
    (φ : Lab × Lab → Lab × Lab) (γ : Lab → Lab)
    (hG : Values.Good lm pred ref) (hG' : Values.Good lm' pred' ref')
    (hrel : ∀ e, e ∈ lm.map φ ↔ e ∈ lm')
    (hφ : ∀ e ∈ lm, (φ e).2 = γ e.2)
    (hinj : ∀ e ∈ lm, ∀ e' ∈ lm, γ e.2 = γ e'.2 → e.2 = e'.2) :
    ((labelsOf ref').filter (fun r => lm'.containsRef r)).Perm
      (((labelsOf ref).filter (fun r => lm.containsRef r)).map γ) := by
  refine perm_map_of_mem_iff γ ((labelsOf_nodup _).filter _) ((labelsOf_nodup _).filter _) ?_ ?_
  · intro x hx y hy hxy
    obtain ⟨e, he, rfl⟩ := (mem_matchedRefs hG x).1 hx
    obtain ⟨e', he', rfl⟩ := (mem_matchedRefs hG y).1 hy
    exact hinj e he e' he' hxy
  · intro y
    rw [mem_matchedRefs hG']
    constructor
    · rintro ⟨e', he', rfl⟩
      obtain ⟨e, he, rfl⟩ := List.mem_map.1 ((hrel e').2 he')
      exact ⟨e.2, (mem_matchedRefs hG _).2 ⟨e, he, rfl⟩, (hφ e he).symm⟩
    · rintro ⟨x, hx, rfl⟩
      obtain ⟨e, he, rfl⟩ := (mem_matchedRefs hG x).1 hx
      exact ⟨φ e, (hrel _).1 (List.mem_map_of_mem he), hφ e he⟩

/-- if moreover the metrics of corresponding matched groups agree, the two scenes yield the same dictionaries up
    to order -/
theorem dictsOf_perm (ms : List Metric) (s : List Nat) {pred ref pred' ref' : Flat} {lm lm' : LMap}
    (φ : Lab × Lab → Lab × Lab) (γ : Lab → Lab)
    (hG : Values.Good lm pred ref) (hG' : Values.Good lm' pred' ref')
    (hrel : ∀ e, e ∈ lm.map φ ↔ e ∈ lm')
    (hφ : ∀ e ∈ lm, (φ e).2 = γ e.2)
    (hinj : ∀ e ∈ lm, ∀ e' ∈ lm, γ e.2 = γ e'.2 → e.2 = e'.2)
    (hsc : ∀ e ∈ lm, ∀ m ∈ ms, metricOn m ⟨s, pred'⟩ ⟨s, ref'⟩ (γ e.2) (lm'.predsOf (γ e.2)) =
      metricOn m ⟨s, pred⟩ ⟨s, ref⟩ e.2 (lm.predsOf e.2)) :
    (Values.dictsOf ms s pred' ref' lm').Perm (Values.dictsOf ms s pred ref lm) := by
  unfold Values.dictsOf
  refine ((matchedRefs_perm φ γ hG hG' hrel hφ hinj).map _).trans (List.Perm.of_eq ?_)
  rw [List.map_map]
  apply List.map_congr_left
  intro r hr
  obtain ⟨e, he, rfl⟩ := (mem_matchedRefs hG r).1 hr
  exact List.map_congr_left fun m hm => by rw [hsc e he m hm]

/-! ### the instances of the relabelled prediction -/

/-- the relabelled prediction carries the matched references and one fresh label per unmatched prediction -/
theorem labelsOf_map_rf_perm {lm : LMap} {pred ref : Flat} (hg : Values.Good lm pred ref) :
    (labelsOf (pred.map (Values.rf lm pred ref))).Perm
      ((labelsOf ref).filter (fun r => lm.containsRef r) ++
        ((labelsOf pred).filter (fun p => !lm.containsPred p)).map (Values.rf lm pred ref)) := by
  have hlm0 : ∀ e ∈ lm, e.2 ≠ 0 := fun e he => ((mem_labelsOf ref _).1 (hg.vals e he)).2
  have hmiss : ∀ x, x ∈ (labelsOf pred).filter (fun p => !lm.containsPred p) ↔
      x ∈ labelsOf pred ∧ lm.containsPred x = false := fun x => by
    rw [List.mem_filter, Bool.not_eq_true']
  apply (List.perm_ext_iff_of_nodup (labelsOf_nodup _) ?_).2
  · intro y
    rw [mem_labelsOf, List.mem_append, mem_matchedRefs hg, List.mem_map, List.mem_map]
    constructor
    · rintro ⟨⟨x, hx, rfl⟩, hy0⟩
      have hxl : x ∈ labelsOf pred :=
        (mem_labelsOf pred x).2 ⟨hx, fun h => hy0 (by rw [h]; exact Values.rf_zero hg)⟩
      cases hk : lm.containsPred x with
      | true =>
        obtain ⟨r, he⟩ := LMap.containsPred_iff.1 hk
        exact .inl ⟨(x, r), he, (Values.rf_mem hg _ he).symm⟩
      | false => exact .inr ⟨x, (hmiss x).2 ⟨hxl, hk⟩, rfl⟩
    · rintro (⟨e, he, rfl⟩ | ⟨x, hx, rfl⟩)
      · exact ⟨⟨e.1, ((mem_labelsOf pred _).1 (hg.keys e he)).1, Values.rf_mem hg e he⟩, hlm0 e he⟩
      · have hxl := ((hmiss x).1 hx).1
        exact ⟨⟨x, ((mem_labelsOf pred x).1 hxl).1, rfl⟩, C04.foreground_kept lm _ _ hlm0 x hxl⟩
  · rw [List.nodup_append]
    refine ⟨(labelsOf_nodup _).filter _, ((labelsOf_nodup pred).filter _).map_on ?_, ?_⟩
    · intro x hx y hy h
      obtain ⟨hxl, hux⟩ := (hmiss x).1 hx
      obtain ⟨hyl, huy⟩ := (hmiss y).1 hy
      exact Classical.byContradiction fun hne =>
        C04.fresh_distinct lm _ _ (labelsOf_nodup pred) x y hxl hyl hne hux huy h
    · rintro a ha b hb rfl
      obtain ⟨x, hx, rfl⟩ := List.mem_map.1 hb
      obtain ⟨hxl, hux⟩ := (hmiss x).1 hx
      exact (C04.fresh_outside_ref lm (labelsOf ref) (labelsOf pred) x hxl hux).2 (List.mem_filter.1 ha).1

end Transport
end Panoptica
