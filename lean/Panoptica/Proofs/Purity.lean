/- C15: the heap machine only ever extends a world (`Ext`); well-formedness and advertised keys survive extension -/
import Panoptica.Model.Purity
namespace Panoptica.C15
open Panoptica.Pure

/-- well-formed world: every aggregator key list exists; every cached location exists, is private
    to its evaluator and is not an aggregator's key list -/
def WF (w : World) : Prop :=
  (∀ l : Nat, l ∈ w.aggKeys → l < w.heap.length) ∧
  ∀ (e : Nat) (ev : Evaluator) (c : Nat), w.evals[e]? = some ev → ev.cache = some c →
    c < w.heap.length ∧ c ∉ w.aggKeys ∧
    ∀ (e' : Nat) (ev' : Evaluator), w.evals[e']? = some ev' → ev'.cache = some c → e' = e

end Panoptica.C15

namespace Panoptica.Pure
open Panoptica.C15 (WF)

abbrev rk (ev : Evaluator) : List String := resultKeys ev.cfg.evalMetrics ev.cfg.globalMetrics

theorem getElem?_lt {α} {l : List α} {i : Nat} {a : α} (h : l[i]? = some a) : i < l.length := by
  rcases Nat.lt_or_ge i l.length with h' | h'
  · exact h'
  · rw [List.getElem?_eq_none h'] at h; cases h

/-! ### the cache map: all the invariant sees of the evaluator list -/

/-- the cached location of evaluator `e`, if there is one -/
def cacheOf (w : World) (e : Nat) : Option Loc := (w.evals[e]?).bind (·.cache)

theorem cacheOf_eq_some {w : World} {e : Nat} {c : Loc} :
    cacheOf w e = some c ↔ ∃ ev, w.evals[e]? = some ev ∧ ev.cache = some c := by
  simp [cacheOf, Option.bind_eq_some_iff]

theorem wf_iff (w : World) : WF w ↔
    (∀ l : Nat, l ∈ w.aggKeys → l < w.heap.length) ∧
    ∀ e c : Nat, cacheOf w e = some c → c < w.heap.length ∧ c ∉ w.aggKeys ∧ ∀ e', cacheOf w e' = some c → e' = e := by
  simp only [WF, cacheOf_eq_some]
  exact and_congr_right fun _ =>
    ⟨fun h e c ⟨ev, he, hc⟩ => let ⟨h1, h2, h3⟩ := h e ev c he hc; ⟨h1, h2, fun e' ⟨ev', he', hc'⟩ => h3 e' ev' he' hc'⟩,
     fun h e ev c he hc => let ⟨h1, h2, h3⟩ := h e c ⟨ev, he, hc⟩; ⟨h1, h2, fun e' ev' he' hc' => h3 e' ⟨ev', he', hc'⟩⟩⟩

theorem cacheOf_newEval (w : World) (cfg : EvalCfg) (e : Nat) :
    cacheOf { w with evals := w.evals ++ [{ cfg := cfg, cache := none }] } e = cacheOf w e := by
  simp only [cacheOf, List.getElem?_append]
  split
  · rfl
  · next h => rw [List.getElem?_eq_none (Nat.le_of_not_lt h), List.getElem?_singleton]; split <;> rfl

theorem cacheOf_set {w : World} {e : Nat} {ev : Evaluator} (he : w.evals[e]? = some ev) (c : Loc)
    (h : List (List String)) (a : List Loc) (e' : Nat) :
    cacheOf { heap := h, evals := w.evals.set e { ev with cache := some c }, aggKeys := a } e' =
      if e' = e then some c else cacheOf w e' := by
  simp only [cacheOf, List.getElem?_set]
  by_cases heq : e = e'
  · subst heq; simp [getElem?_lt he]
  · simp [heq, Ne.symm heq]

/-! ### the keys an evaluator advertises -/

theorem advertised_cached {w : World} {e : Nat} {ev : Evaluator} {c : Loc}
    (h : w.evals[e]? = some ev) (hc : ev.cache = some c) :
    advertised w e = some (w.heap.getD c []) := by
  simp [advertised, h, hc]

theorem advertised_uncached {w : World} {e : Nat} {ev : Evaluator}
    (h : w.evals[e]? = some ev) (hc : ev.cache = none) :
    advertised w e = some (rk ev) := by
  simp [advertised, h, hc]

theorem advertised_none {w : World} {e : Nat} (h : w.evals[e]? = none) :
    advertised w e = none := by
  simp [advertised, h]

/-! ### what a step does to a world -/

/-- the three possible behaviours of the fixed `resulting_metric_keys` -/
theorem getKeys_true_cases (w : World) (e : Nat) :
    (w.evals[e]? = none ∧ getKeys true w e = none) ∨
    (∃ ev c, w.evals[e]? = some ev ∧ ev.cache = some c ∧
      getKeys true w e = some ({ w with heap := w.heap ++ [w.heap.getD c []] }, w.heap.length)) ∨
    (∃ ev, w.evals[e]? = some ev ∧ ev.cache = none ∧
      getKeys true w e = some ({ w with heap := w.heap ++ [rk ev, rk ev],
                                        evals := w.evals.set e { ev with cache := some w.heap.length } },
                               w.heap.length + 1)) := by
  unfold getKeys
  cases h : w.evals[e]? with
  | none => simp
  | some ev =>
    cases hc : ev.cache with
    | none => simp [alloc, hc]
    | some c => simp [alloc, hc]

/-- everything one operation of the fixed code can do to a world: append cells to the heap and register some of
    the new cells as aggregator lists; the same after filling one empty cache with the first new cell, which
    holds that evaluator's keys; or add an evaluator.  No existing cell is ever written: the `log_times` append
    goes to the copy, which is the last cell. -/
inductive Ext (w : World) : World → Prop
  | grow (ext : List (List String)) (agg : List Nat)
      (hagg : ∀ l : Nat, l ∈ agg → w.heap.length ≤ l ∧ l < w.heap.length + ext.length) :
      Ext w { w with heap := w.heap ++ ext, aggKeys := w.aggKeys ++ agg }
  | fill (e : Nat) (ev : Evaluator) (y : List String) (agg : List Nat)
      (he : w.evals[e]? = some ev) (hnone : ev.cache = none) (hagg : ∀ l : Nat, l ∈ agg → l = w.heap.length + 1) :
      Ext w { heap := w.heap ++ [rk ev, y],
              evals := w.evals.set e { ev with cache := some w.heap.length },
              aggKeys := w.aggKeys ++ agg }
  | newEval (cfg : EvalCfg) : Ext w { w with evals := w.evals ++ [{ cfg := cfg, cache := none }] }

theorem Ext.refl (w : World) : Ext w w := by
  simpa using Ext.grow (w := w) [] [] (by simp)

theorem step_ext (w : World) (op : Op) : Ext w (step w op).1 := by
  cases op with
  | newEvaluator cfg => exact .newEval cfg
  | keys e =>
    rcases getKeys_true_cases w e with ⟨_, hg⟩ | ⟨ev, c, he, hc, hg⟩ | ⟨ev, he, hc, hg⟩ <;>
      simp only [step, stepWith, hg]
    · exact .refl w
    · simpa using Ext.grow (w := w) [w.heap.getD c []] [] (by simp)
    · simpa using Ext.fill e ev (rk ev) [] he hc (by simp)
  | newAggregator e b =>
    -- writing to the last cell is appending a different last cell
    have set_last (l : List (List String)) (x y : List String) : (l ++ [x]).set l.length y = l ++ [y] := by simp
    have set_last2 (l : List (List String)) (a x y : List String) :
        (l ++ [a, x]).set (l.length + 1) y = l ++ [a, y] := by simp
    rcases getKeys_true_cases w e with ⟨_, hg⟩ | ⟨ev, c, he, hc, hg⟩ | ⟨ev, he, hc, hg⟩ <;>
      simp only [step, stepWith, hg]
    · exact .refl w
    · cases b
      · exact .grow [_] [_] (by simp)
      · simp only [if_true, set_last]; exact .grow [_] [_] (by simp)
    · cases b
      · exact .fill e ev _ [_] he hc (by simp)
      · simp only [if_true, set_last2]; exact .fill e ev _ [_] he hc (by simp)
  | evaluate e input o => simp only [step, stepWith]; split <;> exact .refl w
  | saveConfig e => simp only [step, stepWith]; split <;> exact .refl w

/-! ### what survives an extension -/

theorem Ext.wf {w w' : World} (h : Ext w w') (hw : WF w) : WF w' := by
  rw [wf_iff] at hw ⊢
  obtain ⟨ha, hc⟩ := hw
  cases h with
  | newEval cfg => simp only [cacheOf_newEval]; exact ⟨ha, hc⟩
  | grow ext agg hagg =>
    refine ⟨fun l hl => ?_, fun e c he => ?_⟩
    · rcases List.mem_append.1 hl with hl | hl
      · have := ha l hl; simp only [List.length_append]; omega
      · simpa using (hagg l hl).2
    · obtain ⟨h1, h2, h3⟩ := hc e c he
      refine ⟨by simp only [List.length_append]; omega, fun hin => ?_, h3⟩
      rcases List.mem_append.1 hin with hin | hin
      · exact h2 hin
      · have := (hagg c hin).1; omega
  | fill e0 ev y agg he0 _ hagg =>
    -- the filled cache is the old heap length: larger than every location in use, smaller than the new `agg`
    have hold : ∀ e c : Nat, cacheOf w e = some c → c < w.heap.length := fun e c h => (hc e c h).1
    refine ⟨fun l hl => ?_, fun e c he => ?_⟩
    · rcases List.mem_append.1 hl with hl | hl
      · have := ha l hl; simp; omega
      · simp [hagg l hl]
    · simp only [cacheOf_set he0] at he ⊢
      split at he
      · next heq =>
        cases he
        refine ⟨by simp, fun hin => ?_, fun e' he' => ?_⟩
        · rcases List.mem_append.1 hin with hin | hin
          · have := ha _ hin; omega
          · have := hagg _ hin; omega
        · split at he'
          · next h => exact h.trans heq.symm
          · have := hold e' _ he'; omega
      · obtain ⟨h1, h2, h3⟩ := hc e c he
        refine ⟨by simp; omega, fun hin => ?_, fun e' he' => ?_⟩
        · rcases List.mem_append.1 hin with hin | hin
          · exact h2 hin
          · have := hagg _ hin; omega
        · split at he'
          · cases he'; omega
          · exact h3 e' he'

theorem Ext.advertised {w w' : World} (h : Ext w w') (hw : WF w) {e : Nat} {ks : List String}
    (ha : advertised w e = some ks) : advertised w' e = some ks := by
  rw [← ha]
  -- a cell in use lies below the old heap length, so appending does not move it
  have hget : ∀ {ev c} (ext : List (List String)), w.evals[e]? = some ev → ev.cache = some c →
      (w.heap ++ ext).getD c [] = w.heap.getD c [] := fun ext he hc => by
    simp [List.getD_eq_getElem?_getD, List.getElem?_append_left (hw.2 e _ _ he hc).1]
  cases he : w.evals[e]? with
  | none => rw [advertised_none he] at ha; cases ha
  | some ev =>
    have hlt := getElem?_lt he
    cases h with
    | newEval cfg => simp only [Pure.advertised, List.getElem?_append_left hlt]
    | grow ext agg _ =>
      simp only [Pure.advertised, he]
      cases hc : ev.cache with
      | none => rfl
      | some c => simp only [hget ext he hc]
    | fill e0 ev0 y agg he0 hnone _ =>
      by_cases heq : e0 = e
      · subst heq
        obtain rfl : ev = ev0 := by simpa [he] using he0
        rw [advertised_uncached he hnone, advertised_cached (c := w.heap.length)
          (ev := { ev with cache := some w.heap.length }) (by simp [hlt]) rfl]
        simp [List.getD_eq_getElem?_getD]
      · simp only [Pure.advertised, List.getElem?_set, heq, if_false, he]
        cases hc : ev.cache with
        | none => rfl
        | some c => simp only [hget _ he hc]

theorem Ext.cfg {w w' : World} (h : Ext w w') {e : Nat} {ev : Evaluator} (he : w.evals[e]? = some ev) :
    ∃ ev', w'.evals[e]? = some ev' ∧ ev'.cfg = ev.cfg := by
  have hlt := getElem?_lt he
  cases h with
  | grow => exact ⟨ev, he, rfl⟩
  | newEval cfg => exact ⟨ev, by simpa [List.getElem?_append_left hlt] using he, rfl⟩
  | fill e0 ev0 y agg h0 _ _ =>
    by_cases heq : e0 = e
    · subst heq; obtain rfl : ev = ev0 := by simpa [he] using h0
      exact ⟨{ ev with cache := some w.heap.length }, by simp [hlt], rfl⟩
    · exact ⟨ev, by simpa [List.getElem?_set, heq] using he, rfl⟩

/-- an evaluator present after an extension either existed before with the same configuration, or is
    brand new and has an empty cache -/
theorem Ext.origin {w w' : World} (h : Ext w w') {e : Nat} {ev' : Evaluator} (he : w'.evals[e]? = some ev') :
    (∃ ev, w.evals[e]? = some ev ∧ ev'.cfg = ev.cfg) ∨ ev'.cache = none := by
  cases h with
  | grow => exact .inl ⟨ev', he, rfl⟩
  | newEval cfg =>
    rw [List.getElem?_append] at he
    split at he
    · exact .inl ⟨ev', he, rfl⟩
    · rw [List.getElem?_singleton] at he
      split at he
      · cases he; exact .inr rfl
      · cases he
  | fill e0 ev0 y agg h0 _ _ =>
    rw [List.getElem?_set] at he
    by_cases heq : e0 = e
    · subst heq
      rw [if_pos rfl] at he
      split at he
      · cases he; exact .inl ⟨ev0, h0, rfl⟩
      · cases he
    · rw [if_neg heq] at he; exact .inl ⟨ev', he, rfl⟩

theorem step_evaluate (w : World) (e input : Nat) (o : Opts) (ev : Evaluator)
    (h : w.evals[e]? = some ev) :
    (step w (Op.evaluate e input o)).2
      = Out.result ev.cfg input (o.saveGroupTimes.getD ev.cfg.saveGroupTimes) := by
  simp only [step, stepWith, h]

theorem step_saveConfig (w : World) (e : Nat) (ev : Evaluator) (h : w.evals[e]? = some ev) :
    (step w (Op.saveConfig e)).2 = Out.config ev.cfg := by
  simp only [step, stepWith, h]

/-! ### runs -/

theorem runOps_nil (stp : World → Op → World × Out) (w : World) : runOps stp w [] = (w, []) := rfl

theorem runOps_cons_fst (stp : World → Op → World × Out) (w : World) (op : Op) (ops : List Op) :
    (runOps stp w (op :: ops)).1 = (runOps stp (stp w op).1 ops).1 := rfl

/-- running `a ++ b` is running `a`, then `b` from the world reached -/
theorem runOps_append_fst (stp : World → Op → World × Out) (w : World) (a b : List Op) :
    (runOps stp w (a ++ b)).1 = (runOps stp (runOps stp w a).1 b).1 := by
  induction a generalizing w with
  | nil => rfl
  | cons op a ih =>
    rw [List.cons_append, runOps_cons_fst, runOps_cons_fst, ih]

/-- invariants of single steps lift to runs -/
theorem runOps_invariant (P : World → Prop) (hstep : ∀ w op, P w → P (step w op).1)
    (w : World) (hw : P w) (ops : List Op) : P (runOps step w ops).1 := by
  induction ops generalizing w with
  | nil => exact hw
  | cons op ops ih => rw [runOps_cons_fst]; exact ih _ (hstep w op hw)

/-- the full invariant: well-formedness, and every evaluator advertises exactly the keys its configuration
    determines -/
def Good (w : World) : Prop :=
  WF w ∧ ∀ (e : Nat) (ev : Evaluator), w.evals[e]? = some ev → advertised w e = some (rk ev)

theorem Good_empty : Good empty := ⟨⟨by simp [empty], by simp [empty]⟩, by simp [empty]⟩

theorem Good_run (ops : List Op) : Good (runOps step empty ops).1 := by
  refine runOps_invariant Good (fun w op ⟨hwf, hadv⟩ => ⟨(step_ext w op).wf hwf, fun e ev' he' => ?_⟩) empty
    Good_empty ops
  rcases (step_ext w op).origin he' with ⟨ev, he, hcfg⟩ | hnone
  · rw [(step_ext w op).advertised hwf (hadv e ev he), rk, rk, hcfg]
  · exact advertised_uncached he' hnone

theorem cfg_stable_run (w : World) (ops : List Op) (e : Nat) (ev : Evaluator)
    (h : w.evals[e]? = some ev) :
    ∃ ev', (runOps step w ops).1.evals[e]? = some ev' ∧ ev'.cfg = ev.cfg :=
  runOps_invariant (fun w' => ∃ ev', w'.evals[e]? = some ev' ∧ ev'.cfg = ev.cfg)
    (fun w' op ⟨_, h1, hc1⟩ => let ⟨ev2, h2, hc2⟩ := (step_ext w' op).cfg h1; ⟨ev2, h2, hc2.trans hc1⟩)
    w ⟨ev, h, rfl⟩ ops

end Panoptica.Pure
