/- helper lemmas for C09 / C11 (pair encoding, overlap counts under relabelling and role exchange) -/
import Panoptica.Proofs.Basic
import Panoptica.Proofs.Matching
import Panoptica.Proofs.Metrics
import Panoptica.Model.Overlap
namespace Panoptica

/-! ### arithmetic of the pair encoding -/

theorem twoPow64_eq : twoPow64 = 2 ^ 64 := by decide

theorem encode_lt (m p r : Nat) (hm : m ≤ 2 ^ 32) (hp : p < 2 ^ 32) (hr : r < m) :
    p * m + r < 2 ^ 64 := by
  have h1 : p * m + r < (p + 1) * m := by rw [Nat.succ_mul]; omega
  have h2 : (p + 1) * m ≤ 2 ^ 32 * 2 ^ 32 := Nat.mul_le_mul (by omega) hm
  have h3 : (2 : Nat) ^ 32 * 2 ^ 32 = 2 ^ 64 := by decide
  omega

theorem encode_mod (m p r : Nat) (hr : r < m) : (p * m + r) % m = r := by
  rw [Nat.add_comm, Nat.add_mul_mod_self_right, Nat.mod_eq_of_lt hr]

theorem encode_div (m p r : Nat) (hr : r < m) : (p * m + r) / m = p := by
  have hm : 0 < m := by omega
  rw [Nat.add_comm, Nat.add_mul_div_right _ _ hm, Nat.div_eq_of_lt hr, Nat.zero_add]

/-- the 64-bit code is the exact integer `p * m + r` -/
theorem encode_exact (m p r : Nat) (hm : m ≤ 2 ^ 32) (hp : p < 2 ^ 32) (hr : r < m) :
    ((p % twoPow64) * m + r) % twoPow64 = p * m + r := by
  rw [twoPow64_eq]
  have h := encode_lt m p r hm hp hr
  have hp' : p % 2 ^ 64 = p := Nat.mod_eq_of_lt (by omega)
  rw [hp', Nat.mod_eq_of_lt h]

theorem encode_inj (m p p' r r' : Nat) (hr : r < m) (hr' : r' < m)
    (h : p * m + r = p' * m + r') : p = p' ∧ r = r' := by
  have h1 := encode_mod m p r hr
  have h2 := encode_mod m p' r' hr'
  have h3 := encode_div m p r hr
  have h4 := encode_div m p' r' hr'
  rw [h] at h1 h3
  exact ⟨by rw [← h3, h4], by rw [← h1, h2]⟩

theorem decode_inj (m c c' : Nat) (h : (c % m, c / m) = (c' % m, c' / m)) : c = c' := by
  have h1 : c % m = c' % m := congrArg Prod.fst h
  have h2 : c / m = c' / m := congrArg Prod.snd h
  rw [← Nat.div_add_mod c m, ← Nat.div_add_mod c' m, h1, h2]

/-! ### the encoded array and the specification as statements about `zip` -/

theorem encodeArr_eq (M m : Nat) (pred ref : Flat) :
    encodeArr M m pred ref =
      (pred.zip ref).map (fun e => if e.2 == 0 then 0 else ((e.1 % M) * m + e.2) % M) := by
  induction pred generalizing ref with
  | nil => simp [encodeArr]
  | cons p ps ih =>
    cases ref with
    | nil => simp [encodeArr]
    | cons r rs => simp [encodeArr, ih rs]

theorem maxRef_bound (ref : Flat) (hr : ∀ x ∈ ref, x < 2 ^ 32 - 1) :
    maxOf (labelsOf ref) + 1 ≤ 2 ^ 32 := by
  have := maxOf_lt (labelsOf ref) (2 ^ 32 - 1) (by decide)
    (fun x hx => hr x ((mem_labelsOf ref x).1 hx).1)
  omega

theorem lt_maxRef (ref : Flat) (r : Lab) (hr : r ∈ ref) (h0 : r ≠ 0) :
    r < maxOf (labelsOf ref) + 1 := by
  exact Nat.lt_succ_of_le (le_maxOf (labelsOf ref) r ((mem_labelsOf ref r).2 ⟨hr, h0⟩))

theorem mem_overlapPairs (pred ref : Flat)
    (hp : ∀ x ∈ pred, x < 2 ^ 32) (hr : ∀ x ∈ ref, x < 2 ^ 32 - 1) (r p : Lab) :
    (r, p) ∈ overlapPairs pred ref (labelsOf ref) ↔
      (r ≠ 0 ∧ p ≠ 0 ∧ (p, r) ∈ pred.zip ref) := by
  have hm := maxRef_bound ref hr
  simp only [overlapPairs, overlapPairsM, List.mem_map, List.mem_filter, mem_uniqueSorted,
    encodeArr_eq, decide_eq_true_eq, Prod.mk.injEq, Prod.exists]
  generalize hM : maxOf (labelsOf ref) + 1 = m at hm
  constructor
  · rintro ⟨c, ⟨⟨p', r', hmem, hc⟩, hgt⟩, hmod, hdiv⟩
    have hp' := hp p' (List.of_mem_zip hmem).1
    have hr'mem := (List.of_mem_zip hmem).2
    by_cases h0 : r' = 0
    · simp only [h0, beq_self_eq_true, if_true] at hc
      omega
    · have hlt : r' < m := by rw [← hM]; exact lt_maxRef ref r' hr'mem h0
      have hb : (r' == 0) = false := by simpa using h0
      simp only [hb, Bool.false_eq_true, if_false] at hc
      rw [encode_exact m p' r' hm hp' hlt] at hc
      subst hc
      rw [encode_mod m p' r' hlt] at hmod
      rw [encode_div m p' r' hlt] at hdiv
      subst hmod hdiv
      refine ⟨h0, ?_, hmem⟩
      intro hp0
      rw [hp0, Nat.zero_mul, Nat.zero_add] at hgt
      exact absurd hlt (Nat.lt_asymm hgt)
  · rintro ⟨hr0, hp0, hmem⟩
    have hp' := hp p (List.of_mem_zip hmem).1
    have hlt : r < m := by rw [← hM]; exact lt_maxRef ref r (List.of_mem_zip hmem).2 hr0
    refine ⟨p * m + r, ⟨⟨p, r, hmem, ?_⟩, ?_⟩, encode_mod m p r hlt, encode_div m p r hlt⟩
    · have hb : (r == 0) = false := by simpa using hr0
      simp only [hb, Bool.false_eq_true, if_false]
      rw [encode_exact m p r hm hp' hlt]
    · have h1 : m ≤ p * m := Nat.le_mul_of_pos_left m (Nat.pos_of_ne_zero hp0)
      have h2 : 0 < r := Nat.pos_of_ne_zero hr0
      exact Nat.lt_of_lt_of_le (Nat.lt_add_of_pos_right h2) (Nat.add_le_add_right h1 r)

theorem overlapPairsM_nodup (M : Nat) (pred ref : Flat) (refLabels : List Lab) :
    (overlapPairsM M pred ref refLabels).Nodup := by
  unfold overlapPairsM
  apply List.Nodup.map_on
  · intro x _ y _ h
    exact decode_inj _ x y h
  · exact (uniqueSorted_nodup _).filter _

/-! ### matcher under relabelling -/

section
variable {S : Type} (le : S → S → Bool) (dec : Bool) (thr : S) (m2o : Bool)

theorem containsPred_map (f : Lab × Lab → Lab × Lab) (σ : Lab → Lab) (m : LMap) (p : Lab)
    (hf : ∀ e, (f e).1 = σ e.1) (hσ : ∀ e ∈ m, σ e.1 = σ p → e.1 = p) :
    LMap.containsPred (m.map f) (σ p) = LMap.containsPred m p := by
  rw [Bool.eq_iff_iff, ← LMap.mem_keys, ← LMap.mem_keys, List.map_map, List.mem_map, List.mem_map]
  constructor
  · rintro ⟨e, he, h⟩
    exact ⟨e, he, hσ e he ((hf e).symm.trans h)⟩
  · rintro ⟨e, he, h⟩
    exact ⟨e, he, (hf e).trans (congrArg σ h)⟩

theorem containsRef_map (f : Lab × Lab → Lab × Lab) (τ : Lab → Lab) (m : LMap) (r : Lab)
    (hf : ∀ e, (f e).2 = τ e.2) (hτ : ∀ e ∈ m, τ e.2 = τ r → e.2 = r) :
    LMap.containsRef (m.map f) (τ r) = LMap.containsRef m r := by
  rw [Bool.eq_iff_iff, ← LMap.mem_vals, ← LMap.mem_vals, List.map_map, List.mem_map, List.mem_map]
  constructor
  · rintro ⟨e, he, h⟩
    exact ⟨e, he, hτ e he ((hf e).symm.trans h)⟩
  · rintro ⟨e, he, h⟩
    exact ⟨e, he, (hf e).trans (congrArg τ h)⟩

/-- relabelling of the candidates, general accumulator; `P`/`Q` are the label sets on which the
    relabellings are injective -/
theorem naiveFold_relabel (σ τ : Lab → Lab) (P Q : Lab → Prop)
    (hσ : ∀ a b, P a → P b → σ a = σ b → a = b) (hτ : ∀ a b, Q a → Q b → τ a = τ b → a = b)
    (cs : List (Cand S)) (hcs : ∀ c ∈ cs, P c.pred ∧ Q c.ref)
    (m : LMap) (hm : ∀ e ∈ m, P e.1 ∧ Q e.2) :
    (cs.map (fun c => { c with ref := τ c.ref, pred := σ c.pred })).foldl
        (naiveStep le dec thr m2o) (m.map (fun e => (σ e.1, τ e.2))) =
      (cs.foldl (naiveStep le dec thr m2o) m).map (fun e => (σ e.1, τ e.2)) := by
  induction cs generalizing m with
  | nil => rfl
  | cons c cs ih =>
    have hc := hcs c (List.mem_cons_self ..)
    have hstep : naiveStep le dec thr m2o (m.map (fun e => (σ e.1, τ e.2)))
          { c with ref := τ c.ref, pred := σ c.pred } =
        (naiveStep le dec thr m2o m c).map (fun e => (σ e.1, τ e.2)) := by
      have h1 := containsPred_map (fun e => (σ e.1, τ e.2)) σ m c.pred (fun _ => rfl)
        (fun e he h => hσ _ _ (hm e he).1 hc.1 h)
      have h2 := containsRef_map (fun e => (σ e.1, τ e.2)) τ m c.ref (fun _ => rfl)
        (fun e he h => hτ _ _ (hm e he).2 hc.2 h)
      simp only [naiveStep, naiveSkip, h1, h2]
      by_cases hsk : (m.containsPred c.pred || m.containsRef c.ref && !m2o) = true <;>
        by_cases hbt : beats le dec c.score thr = true <;>
        simp only [hsk, hbt, Bool.false_eq_true, if_true, if_false, List.map_append, List.map_cons, List.map_nil]
    rw [List.map_cons, List.foldl_cons, List.foldl_cons, hstep]
    apply ih (fun c' hc' => hcs c' (List.mem_cons_of_mem _ hc'))
    intro e he
    rcases naiveStep_cases le dec thr m2o m c with ⟨h, _⟩ | ⟨h, _⟩ <;> rw [h] at he
    · exact hm e he
    · rcases List.mem_append.1 he with he | he
      · exact hm e he
      · rw [List.mem_singleton] at he
        subst he
        exact hc

/-- role exchange, general accumulator (one-to-one matching) -/
theorem naiveFold_swap (cs : List (Cand S)) (m : LMap) :
    (cs.map (fun c => { c with ref := c.pred, pred := c.ref })).foldl
        (naiveStep le dec thr false) (m.map (fun e => (e.2, e.1))) =
      (cs.foldl (naiveStep le dec thr false) m).map (fun e => (e.2, e.1)) := by
  induction cs generalizing m with
  | nil => rfl
  | cons c cs ih =>
    have hstep : naiveStep le dec thr false (m.map (fun e => (e.2, e.1)))
          { c with ref := c.pred, pred := c.ref } =
        (naiveStep le dec thr false m c).map (fun e => (e.2, e.1)) := by
      have h1 : LMap.containsPred (m.map (fun e => (e.2, e.1))) c.ref = LMap.containsRef m c.ref := by
        simp [LMap.containsPred, LMap.containsRef, List.any_map, Function.comp_def]
      have h2 : LMap.containsRef (m.map (fun e => (e.2, e.1))) c.pred = LMap.containsPred m c.pred := by
        simp [LMap.containsPred, LMap.containsRef, List.any_map, Function.comp_def]
      simp only [naiveStep, naiveSkip, h1, h2, Bool.not_false, Bool.and_true]
      rw [Bool.or_comm]
      by_cases hsk : (m.containsPred c.pred || m.containsRef c.ref) = true <;>
        by_cases hbt : beats le dec c.score thr = true <;>
        simp only [hsk, hbt, Bool.false_eq_true, if_true, if_false, List.map_append, List.map_cons, List.map_nil]
    rw [List.map_cons, List.foldl_cons, List.foldl_cons, hstep]
    exact ih _
end

/-! ### RVD under role exchange -/

theorem rvd_swap' (X Y : Flat) (q : Rat) (hx : sumVals X ≠ 0) (hy : sumVals Y ≠ 0)
    (h : rvd X Y = .ok q) : rvd Y X = .ok (-q / (1 + q)) := by
  simp only [rvd] at h ⊢
  have hxb : (sumVals X == 0) = false := by simpa using hx
  have hyb : (sumVals Y == 0) = false := by simpa using hy
  simp only [hxb, hyb, Bool.false_and, Bool.false_eq_true, if_false, Except.ok.injEq] at h ⊢
  subst h
  have hxq : ((sumVals X : Nat) : Rat) ≠ 0 := by exact_mod_cast hx
  have hyq : ((sumVals Y : Nat) : Rat) ≠ 0 := by exact_mod_cast hy
  push_cast
  have h1 : (1 : Rat) + ((sumVals Y : Rat) - (sumVals X : Rat)) / (sumVals X : Rat)
      = (sumVals Y : Rat) / (sumVals X : Rat) := by
    field_simp
    ring
  rw [h1]
  field_simp
  ring

end Panoptica
