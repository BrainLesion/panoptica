/- helper lemmas for Properties/C01Threshold.lean -/
import Panoptica.Proofs.Mirror
import Panoptica.Properties.C01Values
import Panoptica.Properties.C14
import Panoptica.Properties.C05
namespace Panoptica
namespace Threshold
open Mirror Transport

section mergeE
variable {S : Type} (le : S → S → Bool) (dec : Bool) (thr : S) (comb : Lab → List Lab → S)
variable (E : S → Prop)

/-- `C14.final_meets_threshold` with transitivity restricted to a class `E` of scores (here: the exact
    ones) that contains the threshold, every candidate score and every combined score -/
theorem final_meets_thresholdE
    (htrans : ∀ a b c, E a → E b → E c → le a b = true → le b c = true → le a c = true)
    (ht : E thr) (hcomb : ∀ r ps, E (comb r ps))
    (cs : List (Cand S)) (hcs : ∀ c ∈ cs, E c.score) (r : Lab) (s : S)
    (h : (mergeLoop le dec thr comb cs).scores.get? r = some s) :
    beats le dec s thr = true := by
  obtain ⟨_, _, _, _, _, hq⟩ := (mergeLoop_inv le dec thr comb (fun _ x => E x ∧ beats le dec x thr = true) cs
    (fun c hc hb => ⟨hcs c hc, hb⟩) (fun _ _ old hb hs => ⟨hcomb _ _,
      beats_trans htrans (hcomb _ _) hb.1 ht (strictlyBetter_iff.1 hs).1 hb.2⟩)).founder r s h
  exact hq.2

end mergeE

/-- `Score.le` is transitive on exact scores -/
theorem scoreLe_trans_exact (a b c : Score) (ha : IsExact a) (hb : IsExact b) (hc : IsExact c)
    (hab : Score.le a b = true) (hbc : Score.le b c = true) : Score.le a c = true := by
  rw [leT_exact ha hb] at hab
  rw [leT_exact hb hc] at hbc
  rw [leT_exact ha hc]
  exact leT_trans a b c hab hbc

/-! ### a matched reference's final score meets the matching threshold -/

theorem matched_beats_naive (mc : MatcherCfg) (hk : mc.kind = .naive false) (pred ref : Arr)
    (lm : LMap) (hrun : runMatcher mc pred ref = .ok lm) (r : Lab) (hr : lm.containsRef r = true) :
    beats Score.le mc.metric.decreasing (metricOn mc.metric pred ref r (lm.predsOf r)) mc.thr = true := by
  rw [runMatcher_naive mc false hk] at hrun
  cases hrun
  obtain ⟨e, he, her⟩ := (Values.containsRef_eq_true _ r).1 hr
  have hrefs := C03.injective Score.le mc.metric.decreasing mc.thr
    (sortBest Score.le mc.metric.decreasing (scoredCands mc.metric pred ref))
  have hmem : (e.1, r) ∈ naiveLoop Score.le mc.metric.decreasing mc.thr false
      (sortBest Score.le mc.metric.decreasing (scoredCands mc.metric pred ref)) := by
    rw [← her]; exact he
  rw [predsOf_single _ hrefs e.1 r hmem]
  obtain ⟨c, hc, h1, h2, hb⟩ := C03.sound Score.le mc.metric.decreasing mc.thr false _ _ hmem
  have hc' := (Panoptica.mem_sortBest _ _ _ _).1 hc
  have hsc := C01.scoredCands_score mc.metric pred ref c hc'
  simp only at h1 h2
  rw [h1, h2] at hsc
  rw [← hsc]
  exact hb

theorem matched_beats_merge (mc : MatcherCfg) (hk : mc.kind = .merge)
    (hmm : mc.metric = .IOU ∨ mc.metric = .DSC) (ht : ∃ q, mc.thr = .exact q) (pred ref : Arr)
    (lm : LMap) (hrun : runMatcher mc pred ref = .ok lm) (r : Lab) (hr : lm.containsRef r = true) :
    beats Score.le mc.metric.decreasing (metricOn mc.metric pred ref r (lm.predsOf r)) mc.thr = true := by
  unfold runMatcher at hrun
  rw [hk] at hrun
  simp only at hrun
  cases hrun
  unfold mergeMatch at hr ⊢
  have hdef := C14.scores_defined Score.le mc.metric.decreasing mc.thr
    (fun r ps => metricOn mc.metric pred ref r ps)
    (sortBest Score.le mc.metric.decreasing (scoredCands mc.metric pred ref)) r
  rw [hr] at hdef
  obtain ⟨sc, hsc⟩ := Option.isSome_iff_exists.1 hdef
  have hscore : ∀ c ∈ sortBest Score.le mc.metric.decreasing (scoredCands mc.metric pred ref),
      c.score = metricOn mc.metric pred ref c.ref [c.pred] :=
    fun c hc => C01.scoredCands_score mc.metric pred ref c ((Panoptica.mem_sortBest _ _ _ _).1 hc)
  have hinv := C14.score_invariant Score.le mc.metric.decreasing mc.thr
    (fun r ps => metricOn mc.metric pred ref r ps) _ hscore r sc hsc
  rw [← hinv]
  refine final_meets_thresholdE Score.le mc.metric.decreasing mc.thr
    (fun r ps => metricOn mc.metric pred ref r ps) IsExact scoreLe_trans_exact ht
    (fun r ps => metricOn_exact mc.metric hmm pred ref r ps) _ ?_ r sc hsc
  intro c hc
  rw [hscore c hc]
  exact metricOn_exact mc.metric hmm pred ref _ _

theorem matched_beats (mc : MatcherCfg) (hk : mc.kind = .naive false ∨ mc.kind = .merge)
    (hmm : mc.metric = .IOU ∨ mc.metric = .DSC) (ht : ∃ q, mc.thr = .exact q) (pred ref : Arr)
    (lm : LMap) (hrun : runMatcher mc pred ref = .ok lm) (r : Lab) (hr : lm.containsRef r = true) :
    beats Score.le mc.metric.decreasing (metricOn mc.metric pred ref r (lm.predsOf r)) mc.thr = true := by
  rcases hk with hk | hk
  · exact matched_beats_naive mc hk pred ref lm hrun r hr
  · exact matched_beats_merge mc hk hmm ht pred ref lm hrun r hr

theorem cc_shape (b : Backend) (a : Arr) : (connectedComponents b a).1.shape = a.shape := rfl

end Threshold
end Panoptica
