/- the merge matcher's loop (C14): one invariant `MergeInv`, proved once by `foldl_sorted_inv` -/
import Panoptica.Proofs.LMap
import Panoptica.Proofs.Order
namespace Panoptica

section
variable {S : Type} (le : S → S → Bool) (dec : Bool) (thr : S) (comb : Lab → List Lab → S)

/-- a step leaves the state alone, or appends the candidate's pair and records a score `x` for its
    reference: the candidate's own (founding) or a strictly better combined one (merging) -/
theorem mergeStep_cases (st : MergeState S) (c : Cand S) :
    (mergeStep le dec thr comb st c = st ∧
      (st.lmap.containsPred c.pred = false → st.lmap.containsRef c.ref = false →
        beats le dec c.score thr = false)) ∨
    (st.lmap.containsPred c.pred = false ∧ ∃ x,
      mergeStep le dec thr comb st c =
        { lmap := st.lmap ++ [(c.pred, c.ref)], scores := st.scores.set c.ref x } ∧
      ((st.lmap.containsRef c.ref = false ∧ beats le dec c.score thr = true ∧ x = c.score) ∨
       (st.lmap.containsRef c.ref = true ∧ ∃ old, st.scores.get? c.ref = some old ∧
          x = comb c.ref (st.lmap.predsOf c.ref ++ [c.pred]) ∧ strictlyBetter le dec x old = true))) := by
  unfold mergeStep
  cases hp : st.lmap.containsPred c.pred
  case true => left; simp
  cases hr : st.lmap.containsRef c.ref
  · cases hb : beats le dec c.score thr
    · left; simp
    · right; exact ⟨rfl, _, by simp, .inl ⟨rfl, rfl, rfl⟩⟩
  · cases hg : st.scores.get? c.ref with
    | none => left; simp
    | some old =>
      cases hs : strictlyBetter le dec (comb c.ref (st.lmap.predsOf c.ref ++ [c.pred])) old
      · left; simp [hs]
      · right; exact ⟨rfl, _, by simp [hs], .inr ⟨rfl, old, rfl, rfl, hs⟩⟩

/-- The invariant of the merge loop after the candidates `s`.  `Q c x`: a property of the score `x`
    recorded for a reference founded by candidate `c`, true of `c`'s own score and kept by every
    strict improvement (instances: `True`, "meets the threshold", "at least as good as `c.score`",
    "is exact and meets the threshold"). -/
structure MergeInv (Q : Cand S → S → Prop) (s : List (Cand S)) (st : MergeState S) : Prop where
  keys : (st.lmap.map (·.1)).Nodup
  defined : ∀ r, (st.scores.get? r).isSome = st.lmap.containsRef r
  entries : ∀ e ∈ st.lmap, ∃ c ∈ s, c.pred = e.1 ∧ c.ref = e.2
  founder : ∀ r x, st.scores.get? r = some x → ∃ c ∈ s, c.ref = r ∧ beats le dec c.score thr = true ∧
    (st.lmap.predsOf r).head? = some c.pred ∧ Q c x
  score : (∀ c ∈ s, c.score = comb c.ref [c.pred]) →
    ∀ r x, st.scores.get? r = some x → x = comb r (st.lmap.predsOf r)
  unmatched : ∀ c ∈ s, beats le dec c.score thr = true → st.lmap.containsRef c.ref = false →
    ∃ r', r' ≠ c.ref ∧ (c.pred, r') ∈ st.lmap

variable {le dec thr comb}

theorem MergeInv.step {Q : Cand S → S → Prop} {s : List (Cand S)} {st : MergeState S}
    (h : MergeInv le dec thr comb Q s st) (a : Cand S)
    (hQ0 : beats le dec a.score thr = true → Q a a.score)
    (hQ : ∀ c ps old, Q c old → strictlyBetter le dec (comb c.ref ps) old = true → Q c (comb c.ref ps)) :
    MergeInv le dec thr comb Q (s ++ [a]) (mergeStep le dec thr comb st a) := by
  have hsub : ∀ c ∈ s, c ∈ s ++ [a] := fun c hc => List.mem_append_left _ hc
  have hsnoc : ∀ {P : Cand S → Prop}, (∀ c ∈ s, P c) → P a → ∀ c ∈ s ++ [a], P c := by
    intro P h1 h2 c hc
    rcases List.mem_append.1 hc with hc | hc
    · exact h1 c hc
    · rw [List.mem_singleton] at hc; exact hc ▸ h2
  rcases mergeStep_cases le dec thr comb st a with ⟨e, hwhy⟩ | ⟨hp, x, e, hx⟩ <;> rw [e]
  · -- state unchanged; for `a` itself: if its reference is unmatched and it is eligible, its prediction is taken
    refine ⟨h.keys, h.defined, fun e he => ?_, fun r x hx => ?_,
      fun hc => h.score fun c hc' => hc c (hsub c hc'), hsnoc h.unmatched fun hb hr => ?_⟩
    · obtain ⟨c, hc, h'⟩ := h.entries e he; exact ⟨c, hsub c hc, h'⟩
    · obtain ⟨c, hc, h'⟩ := h.founder r x hx; exact ⟨c, hsub c hc, h'⟩
    · cases hp : st.lmap.containsPred a.pred with
      | false => rw [hwhy hp hr] at hb; cases hb
      | true =>
        obtain ⟨r', hm⟩ := LMap.containsPred_iff.1 hp
        exact ⟨r', fun h' => LMap.containsRef_eq_false.1 hr _ (h' ▸ hm), hm⟩
  · -- `(a.pred, a.ref)` appended, `x` recorded for `a.ref`
    have hmem : (a.pred, a.ref) ∈ st.lmap ++ [(a.pred, a.ref)] := by simp
    refine ⟨LMap.keys_nodup_concat.2 ⟨h.keys, LMap.containsPred_eq_false.1 hp⟩, fun r => ?_,
      fun e he => ?_, fun r y hy => ?_, fun hc r y hy => ?_, fun c hc hb hr => ?_⟩
    · simp only [ScoreRef.get?_set, LMap.containsRef_concat, ← h.defined r]
      by_cases hr : r = a.ref
      · simp [hr]
      · simp [hr, Ne.symm hr]
    · rcases List.mem_append.1 he with he | he
      · obtain ⟨c, hc, h'⟩ := h.entries e he; exact ⟨c, hsub c hc, h'⟩
      · rw [List.mem_singleton] at he; subst he; exact ⟨a, by simp, rfl, rfl⟩
    · simp only [ScoreRef.get?_set, LMap.predsOf_concat] at hy ⊢
      by_cases hr : r = a.ref
      · subst hr
        simp only [if_true, Option.some.injEq] at hy
        subst hy
        rcases hx with ⟨hr, hb, rfl⟩ | ⟨_, old, ho, rfl, hsb⟩
        · exact ⟨a, by simp, rfl, hb, by simp [LMap.predsOf_eq_nil.2 hr], hQ0 hb⟩
        · obtain ⟨c, hc, h1, h2, h3, h4⟩ := h.founder _ old ho
          exact ⟨c, hsub c hc, h1, h2, by simp [List.head?_append, h3], h1 ▸ hQ c _ old h4 (h1 ▸ hsb)⟩
      · simp only [hr, if_false, Ne.symm hr, List.append_nil] at hy ⊢
        obtain ⟨c, hc, h'⟩ := h.founder r y hy; exact ⟨c, hsub c hc, h'⟩
    · simp only [ScoreRef.get?_set, LMap.predsOf_concat] at hy ⊢
      by_cases hr : r = a.ref
      · subst hr
        simp only [if_true, Option.some.injEq] at hy
        subst hy
        rcases hx with ⟨hr, _, rfl⟩ | ⟨_, _, _, rfl, _⟩
        · simp [LMap.predsOf_eq_nil.2 hr, hc a (by simp)]
        · simp
      · simp only [hr, if_false, Ne.symm hr, List.append_nil] at hy ⊢
        exact h.score (fun c hc' => hc c (hsub c hc')) r y hy
    · rw [LMap.containsRef_concat, Bool.or_eq_false_iff, beq_eq_false_iff_ne] at hr
      rcases List.mem_append.1 hc with hc | hc
      · obtain ⟨r', h1, h2⟩ := h.unmatched c hc hb hr.1; exact ⟨r', h1, List.mem_append_left _ h2⟩
      · rw [List.mem_singleton] at hc; subst hc; exact absurd rfl hr.2

variable (le dec thr comb)

theorem MergeInv.init (Q : Cand S → S → Prop) : MergeInv le dec thr comb Q [] { lmap := [], scores := [] } :=
  ⟨List.nodup_nil, fun _ => rfl, fun _ h => (nomatch h), fun _ _ h => (nomatch h),
    fun _ _ _ h => (nomatch h), fun _ h => (nomatch h)⟩

theorem mergeLoop_inv (Q : Cand S → S → Prop) (cs : List (Cand S))
    (hQ0 : ∀ c ∈ cs, beats le dec c.score thr = true → Q c c.score)
    (hQ : ∀ c ps old, Q c old → strictlyBetter le dec (comb c.ref ps) old = true → Q c (comb c.ref ps)) :
    MergeInv le dec thr comb Q cs (mergeLoop le dec thr comb cs) :=
  foldl_sorted_inv (R := fun _ _ => True) _ (MergeInv le dec thr comb Q)
    (List.pairwise_of_forall fun _ _ => trivial) (MergeInv.init le dec thr comb Q)
    (fun _ a _ ha _ h => h.step a (hQ0 a ha) hQ)

/-- the part that needs nothing of the scores -/
theorem mergeLoop_inv' (cs : List (Cand S)) :
    MergeInv le dec thr comb (fun _ _ => True) cs (mergeLoop le dec thr comb cs) :=
  mergeLoop_inv le dec thr comb _ cs (fun _ _ _ => trivial) (fun _ _ _ _ _ => trivial)

end

end Panoptica
