/- helper lemmas for C19 (configuration round trip) -/
import Panoptica.Model.Config
namespace Panoptica.Cfg

variable {V : Type}

/-- Prop-level content of the decidable `WellFormed` check -/
structure WF (d : ClassDesc) : Prop where
  storesNodup : (d.stores.map (·.1)).Nodup
  reprNodup : (reprKeys d).Nodup
  reprOK : ∀ k e, (k, e) ∈ d.repr → ∃ a st, e = ReprE.attr a ∧ k ∈ d.params ∧
    (a, st) ∈ d.stores ∧ st.mainParam = some k
  noOther : ∀ a s, (a, Store.other s) ∉ d.stores
  fallback : ∀ a p q, (a, Store.ifNoneParam p q) ∈ d.stores → q ∈ d.noneDefault ∧ q ∉ reprKeys d

theorem wf_of_wellFormed {d : ClassDesc} (h : WellFormed d = true) : WF d := by
  unfold WellFormed at h
  simp only [Bool.and_eq_true, decide_eq_true_eq, List.all_eq_true] at h
  obtain ⟨⟨⟨h1, h2⟩, h3⟩, h4⟩ := h
  refine ⟨h1, h2, ?_, ?_, ?_⟩
  · intro k e hke
    have := h3 (k, e) hke
    cases e with
    | other s => simp at this
    | attr a =>
      simp only [Bool.and_eq_true, List.contains_iff_mem, List.any_eq_true, beq_iff_eq] at this
      obtain ⟨hk, ⟨a', st⟩, hmem, ha, hm⟩ := this
      simp only at ha hm
      subst ha
      exact ⟨a', st, rfl, hk, hmem, hm⟩
  · intro a s hmem
    have := h4 (a, .other s) hmem
    simp at this
  · intro a p q hmem
    have := h4 (a, .ifNoneParam p q) hmem
    simp only [Bool.and_eq_true, List.contains_iff_mem, Bool.not_eq_eq_eq_not,
      Bool.not_true] at this
    refine ⟨this.1, ?_⟩
    intro hq
    have h2 := this.2
    rw [← List.contains_iff_mem] at hq
    rw [hq] at h2
    cases h2

/-! ### lookup -/

theorem lookup_nil (k : String) : lookup ([] : List (String × V)) k = none := rfl

theorem lookup_cons (x : String × V) (l : List (String × V)) (k : String) :
    lookup (x :: l) k = if x.1 = k then some x.2 else lookup l k := by
  unfold lookup
  rw [List.find?_cons]
  by_cases h : x.1 = k
  · simp [h]
  · have : (x.1 == k) = false := by simpa using h
    simp [this, h]

theorem lookup_of_mem_nodup {W : Type} (l : List (String × W)) (a : String) (w : W)
    (hn : (l.map (·.1)).Nodup) (hm : (a, w) ∈ l) : lookup l a = some w := by
  induction l with
  | nil => cases hm
  | cons x l ih =>
    rw [lookup_cons]
    rw [List.map_cons, List.nodup_cons] at hn
    rcases List.mem_cons.1 hm with rfl | hm
    · simp
    · have hne : x.1 ≠ a := by
        intro hx
        apply hn.1
        rw [hx]
        exact List.mem_map.2 ⟨(a, w), hm, rfl⟩
      rw [if_neg hne]
      exact ih hn.2 hm

theorem lookup_map_snd {W : Type} (f : W → V) (l : List (String × W)) (a : String) :
    lookup (l.map (fun (e : String × W) => (e.1, f e.2))) a = (lookup l a).map f := by
  induction l with
  | nil => rfl
  | cons x l ih =>
    rw [List.map_cons, lookup_cons, lookup_cons]
    by_cases h : x.1 = a
    · simp [h]
    · simp only [h, if_false]
      exact ih

theorem lookup_construct (S : Sem V) (defaults : String → V) (d : ClassDesc)
    (data : List (String × V)) (a : String) :
    lookup (construct S defaults d data) a =
      (lookup d.stores a).map (evalStore S (argOf defaults data)) := by
  unfold construct
  exact lookup_map_snd (evalStore S (argOf defaults data)) d.stores a

theorem lookup_construct_of_mem (S : Sem V) (defaults : String → V) {d : ClassDesc} (hd : WF d)
    (data : List (String × V)) {a : String} {st : Store} (hm : (a, st) ∈ d.stores) :
    lookup (construct S defaults d data) a = some (evalStore S (argOf defaults data) st) := by
  rw [lookup_construct, lookup_of_mem_nodup d.stores a st hd.storesNodup hm]; rfl

/-! ### represent -/

/-- the per-entry function of `represent` -/
def reprEntry (attrs : List (String × V)) (ke : String × ReprE) : Option (String × V) :=
  match ke.2 with
  | .attr a => (lookup attrs a).map (fun v => (ke.1, v))
  | .other _ => Option.none

theorem represent_eq (d : ClassDesc) (attrs : List (String × V)) :
    represent d attrs = d.repr.filterMap (reprEntry attrs) := by
  rfl

theorem lookup_eq_none {W : Type} (l : List (String × W)) (k : String) (hk : k ∉ l.map (·.1)) :
    lookup l k = none := by
  induction l with
  | nil => rfl
  | cons x l ih =>
    rw [List.map_cons, List.mem_cons, not_or] at hk
    rw [lookup_cons, if_neg (fun h => hk.1 h.symm), ih hk.2]

theorem filterMap_eq_map_of {α β : Type} (f : α → Option β) (g : α → β) (l : List α)
    (h : ∀ x ∈ l, f x = some (g x)) : l.filterMap f = l.map g := by
  induction l with
  | nil => rfl
  | cons x l ih =>
    rw [List.filterMap_cons, h x List.mem_cons_self, List.map_cons,
      ih (fun y hy => h y (List.mem_cons_of_mem _ hy))]

/-- when every attribute a key reads is present, `_yaml_repr` drops nothing: it is a `map` over the keys -/
theorem represent_eq_map (d : ClassDesc) (attrs : List (String × V)) (g : String × ReprE → V)
    (h : ∀ ke ∈ d.repr, ∃ a, ke.2 = .attr a ∧ lookup attrs a = some (g ke)) :
    represent d attrs = d.repr.map (fun ke => (ke.1, g ke)) := by
  rw [represent_eq]
  refine filterMap_eq_map_of _ _ _ (fun ke hke => ?_)
  obtain ⟨a, ha, hl⟩ := h ke hke
  simp only [reprEntry, ha, hl, Option.map_some]

/-- the value saved under a key of a well-formed class -/
def savedVal (S : Sem V) (args : String → V) (d : ClassDesc) (ke : String × ReprE) : V :=
  match ke.2 with
  | .attr a => ((lookup d.stores a).map (evalStore S args)).getD S.none
  | .other _ => S.none

theorem savedVal_attr (S : Sem V) (args : String → V) {d : ClassDesc} (hd : WF d) (k : String) {a : String}
    {st : Store} (hst : (a, st) ∈ d.stores) : savedVal S args d (k, .attr a) = evalStore S args st := by
  show ((lookup d.stores a).map _).getD _ = _
  rw [lookup_of_mem_nodup _ _ _ hd.storesNodup hst]; rfl

theorem represent_construct (S : Sem V) (defaults : String → V) {d : ClassDesc} (hd : WF d)
    (data : List (String × V)) :
    represent d (construct S defaults d data) =
      d.repr.map (fun ke => (ke.1, savedVal S (argOf defaults data) d ke)) := by
  apply represent_eq_map
  rintro ⟨k, e⟩ hke
  obtain ⟨a, st, rfl, _, hst, _⟩ := hd.reprOK k e hke
  exact ⟨a, rfl, by rw [savedVal_attr S _ hd k hst, lookup_construct_of_mem S defaults hd _ hst]⟩

theorem represent_construct_keys (S : Sem V) (defaults : String → V) {d : ClassDesc} (hd : WF d)
    (data : List (String × V)) :
    (represent d (construct S defaults d data)).map (·.1) = reprKeys d := by
  rw [represent_construct S defaults hd, List.map_map]; rfl

/-! ### the round trip of one represented attribute -/

/-- re-evaluating a store on arguments where its own parameter `k` now holds the previously stored
    value `v` (and the fall-back parameter, if any, is `S.none`) gives `v` again -/
theorem evalStore_roundtrip (S : Sem V)
    (none_eq : ∀ v, S.isNone v = true → v = S.none)
    (new_not_none : ∀ c, S.isNone (S.new c) = false)
    (norm_idem : ∀ n v, S.norm n (S.norm n v) = S.norm n v)
    (args args' : String → V) (st : Store) (k : String)
    (hmain : st.mainParam = some k)
    (hk : args' k = evalStore S args st)
    (hq : ∀ p q, st = Store.ifNoneParam p q → args' q = S.none) :
    evalStore S args' st = evalStore S args st := by
  cases st with
  | param p n =>
    simp only [Store.mainParam, Option.some.injEq] at hmain
    subst hmain
    cases n with
    | id => simpa only [evalStore] using hk
    | other n =>
      simp only [evalStore] at hk ⊢
      rw [hk, norm_idem]
  | ifNoneParam p q =>
    simp only [Store.mainParam, Option.some.injEq] at hmain
    subst hmain
    have hq' := hq p q rfl
    generalize hv : evalStore S args (Store.ifNoneParam p q) = v at hk ⊢
    simp only [evalStore]
    rw [hk, hq']
    cases h : S.isNone v with
    | true => simp only [if_true]; exact (none_eq v h).symm
    | false => simp
  | ifNoneNew p c =>
    simp only [Store.mainParam, Option.some.injEq] at hmain
    subst hmain
    have hnn : S.isNone (evalStore S args (Store.ifNoneNew p c)) = false := by
      simp only [evalStore]
      cases h : S.isNone (args p) with
      | true => simp only [if_true]; exact new_not_none c
      | false => simpa using h
    generalize evalStore S args (Store.ifNoneNew p c) = v at hk hnn ⊢
    simp only [evalStore]
    rw [hk, hnn]
    simp
  | const s => rfl
  | other s => rfl

theorem construct_saved_lookup (S : Sem V)
    (none_eq : ∀ v, S.isNone v = true → v = S.none)
    (new_not_none : ∀ c, S.isNone (S.new c) = false)
    (norm_idem : ∀ n v, S.norm n (S.norm n v) = S.norm n v)
    (defaults : String → V) {d : ClassDesc} (hd : WF d)
    (hdef : ∀ q ∈ d.noneDefault, defaults q = S.none)
    (data : List (String × V)) {k a : String} (hk : (k, ReprE.attr a) ∈ d.repr) :
    lookup (construct S defaults d (represent d (construct S defaults d data))) a
      = lookup (construct S defaults d data) a := by
  obtain ⟨a', st, ha, _, hst, hmain⟩ := hd.reprOK k _ hk
  cases ha
  have hkeys : ((represent d (construct S defaults d data)).map (·.1)) = reprKeys d :=
    represent_construct_keys S defaults hd data
  rw [lookup_construct_of_mem S defaults hd _ hst, lookup_construct_of_mem S defaults hd _ hst]
  congr 1
  apply evalStore_roundtrip S none_eq new_not_none norm_idem _ _ st k hmain
  · unfold argOf
    rw [lookup_of_mem_nodup _ k (evalStore S (argOf defaults data) st) (hkeys ▸ hd.reprNodup)]
    · rfl
    · rw [represent_construct S defaults hd]
      refine List.mem_map.2 ⟨_, hk, ?_⟩
      rw [savedVal_attr S _ hd k hst]
  · rintro p q rfl
    obtain ⟨hq1, hq2⟩ := hd.fallback _ _ _ hst
    unfold argOf
    rw [lookup_eq_none _ q (hkeys ▸ hq2)]
    exact hdef q hq1
theorem represent_congr (d : ClassDesc) (attrs attrs' : List (String × V))
    (h : ∀ k a, (k, ReprE.attr a) ∈ d.repr → lookup attrs a = lookup attrs' a) :
    represent d attrs = represent d attrs' := by
  rw [represent_eq, represent_eq]
  have key : ∀ r : List (String × ReprE), (∀ x ∈ r, x ∈ d.repr) →
      r.filterMap (reprEntry attrs) = r.filterMap (reprEntry attrs') := by
    intro r
    induction r with
    | nil => intro _; rfl
    | cons x r ih =>
      intro hr
      obtain ⟨k, e⟩ := x
      have hx : reprEntry attrs (k, e) = reprEntry attrs' (k, e) := by
        cases e with
        | other s => rfl
        | attr a =>
          simp only [reprEntry]
          rw [h k a (hr _ List.mem_cons_self)]
      rw [List.filterMap_cons, List.filterMap_cons, hx,
        ih (fun y hy => hr y (List.mem_cons_of_mem _ hy))]
  exact key d.repr (fun _ h => h)

end Panoptica.Cfg
