/- Counting over a pair of arrays. Every count of the model (`ovCount`, `cnt`, `interCount`, `unionCount`)
   and of the specification (`card`, `cardInter`, `cardUnion`) is `countP` of a pointwise predicate over
   the list of pairs `a.zip b` (normal forms below, one per recursive definition). Symmetry, relabelling,
   restriction to the foreground, rearrangement and the mask inequalities are then `List.countP` facts:
   `countP_map`, `countP_congr`, `countP_filter`, `Perm.countP_eq`, `countP_mono_left`.
   No Mathlib here: `simp` is markedly cheaper without its simp set. -/
import Panoptica.Model.Overlap
import Panoptica.Model.Metrics
import Panoptica.Spec.Masks
namespace Panoptica
open Panoptica.Spec

/-! ### normal forms: one per two-list recursion of the model, by its own functional induction -/

theorem ovCount_eq_countP (pred ref : Flat) (r p : Lab) :
    ovCount pred ref r p = (pred.zip ref).countP (fun z => z.1 == p && z.2 == r) := by
  induction pred generalizing ref with
  | nil => simp [ovCount]
  | cons x xs ih => cases ref <;> simp [ovCount, List.countP_cons, ih, Nat.add_comm]

theorem interCount_eq_countP (a b : Flat) :
    interCount a b = (a.zip b).countP (fun z => z.1 != 0 && z.2 != 0) := by
  induction a generalizing b with
  | nil => simp [interCount]
  | cons x xs ih => cases b <;> simp [interCount, List.countP_cons, ih, Nat.add_comm]

theorem unionCount_eq_countP (a b : Flat) :
    unionCount a b = (a.zip b).countP (fun z => z.1 != 0 || z.2 != 0) := by
  induction a generalizing b with
  | nil => simp [unionCount]
  | cons x xs ih => cases b <;> simp [unionCount, List.countP_cons, ih, Nat.add_comm]

theorem overlaps_eq_any (pred ref : Flat) (r p : Lab) :
    overlaps pred ref r p = (pred.zip ref).any (fun z => z.1 == p && z.2 == r) := by
  induction pred generalizing ref with
  | nil => simp [overlaps]
  | cons x xs ih => cases ref <;> simp [overlaps, ih]

theorem cnt_eq_countP (a : Flat) (l : Lab) : cnt a l = a.countP (· == l) :=
  List.countP_eq_length_filter.symm

theorem count_true_zipWith (f : Bool → Bool → Bool) (X Y : List Bool) :
    (List.zipWith f X Y).count true = (X.zip Y).countP (fun z => f z.1 z.2) := by
  rw [← List.map_uncurry_zip_eq_zipWith, List.count_eq_countP, List.countP_map]
  exact List.countP_congr (by simp)

theorem cardInter_eq_countP (X Y : List Bool) : cardInter X Y = (X.zip Y).countP (fun z => z.1 && z.2) :=
  count_true_zipWith _ X Y

theorem cardUnion_eq_countP (X Y : List Bool) : cardUnion X Y = (X.zip Y).countP (fun z => z.1 || z.2) :=
  count_true_zipWith _ X Y

/-! ### single arrays seen through the pairs -/

theorem countP_fst_zip {α β : Type} (p : α → Bool) (a : List α) (b : List β) (h : a.length ≤ b.length) :
    (a.zip b).countP (fun z => p z.1) = a.countP p := by
  conv => rhs; rw [← List.map_fst_zip h, List.countP_map]
  rfl

theorem countP_snd_zip {α β : Type} (p : β → Bool) (a : List α) (b : List β) (h : b.length ≤ a.length) :
    (a.zip b).countP (fun z => p z.2) = b.countP p := by
  conv => rhs; rw [← List.map_snd_zip h, List.countP_map]
  rfl

theorem countP_fst_zip_le {α β : Type} (p : α → Bool) (a : List α) (b : List β) :
    (a.zip b).countP (fun z => p z.1) ≤ a.countP p := by
  rw [List.zip_eq_zip_take_min, countP_fst_zip p _ _ (by simp)]
  exact (List.take_sublist _ _).countP_le

theorem countP_snd_zip_le {α β : Type} (p : β → Bool) (a : List α) (b : List β) :
    (a.zip b).countP (fun z => p z.2) ≤ b.countP p := by
  rw [List.zip_eq_zip_take_min, countP_snd_zip p _ _ (by simp)]
  exact (List.take_sublist _ _).countP_le

/-! ### the two facts about `countP` that are not in the library -/

theorem countP_and_add_countP_or {α : Type} (p q : α → Bool) (l : List α) :
    l.countP (fun x => p x && q x) + l.countP (fun x => p x || q x) = l.countP p + l.countP q := by
  induction l with
  | nil => rfl
  | cons x xs ih => simp only [List.countP_cons]; cases p x <;> cases q x <;> simp <;> omega

/-- a predicate that implies another and holds equally often holds at the same elements -/
theorem countP_eq_imp {α : Type} {p q : α → Bool} {l : List α} (hpq : ∀ x, p x = true → q x = true)
    (h : l.countP p = l.countP q) : ∀ x ∈ l, q x = true → p x = true := by
  have e1 : l.filter p = (l.filter q).filter p := by
    rw [List.filter_filter]
    exact List.filter_congr fun x _ => by cases hp : p x <;> simp [hpq x, hp]
  have e := (e1 ▸ List.filter_sublist (p := p) (l := l.filter q)).eq_of_length
    (by rw [← List.countP_eq_length_filter, ← List.countP_eq_length_filter, h])
  intro x hx hq
  exact (List.mem_filter.1 (e ▸ List.mem_filter.2 ⟨hx, hq⟩)).2

/-! ### masks -/

theorem card_eq_countP (X : List Bool) : card X = X.countP id := by
  rw [card, List.count_eq_countP]; exact List.countP_congr (by simp)

theorem card_incl_excl (X Y : List Bool) (hlen : X.length = Y.length) :
    card X + card Y = cardInter X Y + cardUnion X Y := by
  rw [card_eq_countP, card_eq_countP, ← countP_fst_zip id X Y (by omega), ← countP_snd_zip id X Y (by omega),
    cardInter_eq_countP, cardUnion_eq_countP]
  exact (countP_and_add_countP_or _ _ _).symm

theorem cardInter_le_union (X Y : List Bool) : cardInter X Y ≤ cardUnion X Y := by
  rw [cardInter_eq_countP, cardUnion_eq_countP]
  exact List.countP_mono_left (by simp +contextual)

theorem cardInter_le_left (X Y : List Bool) : cardInter X Y ≤ card X := by
  rw [cardInter_eq_countP, card_eq_countP]
  exact Nat.le_trans (List.countP_mono_left (by simp +contextual)) (countP_fst_zip_le id X Y)

theorem cardInter_le_right (X Y : List Bool) : cardInter X Y ≤ card Y := by
  rw [cardInter_eq_countP, card_eq_countP]
  exact Nat.le_trans (List.countP_mono_left (by simp +contextual)) (countP_snd_zip_le id X Y)

theorem eq_of_cardInter_eq_cardUnion (X Y : List Bool) (hlen : X.length = Y.length)
    (h : cardInter X Y = cardUnion X Y) : X = Y := by
  rw [cardInter_eq_countP, cardUnion_eq_countP] at h
  have := countP_eq_imp (by simp +contextual) h
  rw [← List.map_fst_zip (l₁ := X) (l₂ := Y) (by omega)]
  conv => rhs; rw [← List.map_snd_zip (l₁ := X) (l₂ := Y) (by omega)]
  exact List.map_congr_left fun z hz => by have := this z hz; revert this; cases z.1 <;> cases z.2 <;> simp

theorem maskVals_zip (X Y : List Bool) :
    (maskVals X).zip (maskVals Y) = (X.zip Y).map (Prod.map (if · then 1 else 0) (if · then 1 else 0)) :=
  List.zip_map

theorem interCount_maskVals (X Y : List Bool) : interCount (maskVals X) (maskVals Y) = cardInter X Y := by
  rw [interCount_eq_countP, cardInter_eq_countP, maskVals_zip, List.countP_map]
  exact List.countP_congr fun z _ => by rcases z with ⟨_ | _, _ | _⟩ <;> simp

theorem unionCount_maskVals (X Y : List Bool) : unionCount (maskVals X) (maskVals Y) = cardUnion X Y := by
  rw [unionCount_eq_countP, cardUnion_eq_countP, maskVals_zip, List.countP_map]
  exact List.countP_congr fun z _ => by rcases z with ⟨_ | _, _ | _⟩ <;> simp

theorem zip_swap {α β : Type} (a : List α) (b : List β) : b.zip a = (a.zip b).map Prod.swap := by
  induction a generalizing b with
  | nil => simp
  | cons x xs ih => cases b <;> simp [ih]

theorem interCount_comm (a b : Flat) : interCount a b = interCount b a := by
  rw [interCount_eq_countP, interCount_eq_countP, zip_swap a b, List.countP_map]
  exact List.countP_congr fun z _ => by simp [Bool.and_comm]

/-! ### role exchange, relabelling, selection -/

theorem ovCount_swap' (pred ref : Flat) (r p : Lab) : ovCount ref pred p r = ovCount pred ref r p := by
  rw [ovCount_eq_countP, ovCount_eq_countP, zip_swap pred ref, List.countP_map]
  exact List.countP_congr fun z _ => by simp [Bool.and_comm]

/-- a map that does not merge anything with `l` commutes with the test for `l` -/
theorem beq_map_of_inj {σ : Lab → Lab} {x l : Lab} (h : σ x = σ l → x = l) : (σ x == σ l) = (x == l) := by
  rw [Bool.eq_iff_iff, beq_iff_eq, beq_iff_eq]
  exact ⟨h, congrArg σ⟩

theorem ovCount_map (σ τ : Lab → Lab) (pred ref : Flat) (r p : Lab)
    (hσ : ∀ a ∈ pred, σ a = σ p → a = p) (hτ : ∀ b ∈ ref, τ b = τ r → b = r) :
    ovCount (pred.map σ) (ref.map τ) (τ r) (σ p) = ovCount pred ref r p := by
  rw [ovCount_eq_countP, ovCount_eq_countP, List.zip_map, List.countP_map]
  refine List.countP_congr fun z hz => ?_
  have hz := List.of_mem_zip hz
  simp only [Function.comp_apply, Prod.map_fst, Prod.map_snd, beq_map_of_inj (hσ _ hz.1),
    beq_map_of_inj (hτ _ hz.2)]

theorem cnt_map (σ : Lab → Lab) (a : Flat) (l : Lab) (hσ : ∀ x ∈ a, σ x = σ l → x = l) :
    cnt (a.map σ) (σ l) = cnt a l := by
  rw [cnt_eq_countP, cnt_eq_countP, List.countP_map]
  exact List.countP_congr fun x hx => by simp only [Function.comp_apply, beq_map_of_inj (hσ x hx)]

theorem cardInter_sel (pred ref : Flat) (r p : Lab) :
    cardInter (selRef ref r) (selPred pred [p]) = ovCount pred ref r p := by
  rw [cardInter_eq_countP, ovCount_eq_countP, selRef, selPred, List.zip_map, zip_swap pred ref,
    List.countP_map, List.countP_map]
  exact List.countP_congr fun z _ => by simp [and_comm]

theorem card_selRef (a : Flat) (r : Lab) : card (selRef a r) = cnt a r := by
  rw [card_eq_countP, cnt_eq_countP, selRef, List.countP_map]; rfl


theorem unionCount_comm (a b : Flat) : unionCount a b = unionCount b a := by
  rw [unionCount_eq_countP, unionCount_eq_countP, zip_swap a b, List.countP_map]
  exact List.countP_congr fun z _ => by simp [Bool.or_comm]

theorem overlaps_iff (pred ref : Flat) (r0 p0 : Lab) :
    overlaps pred ref r0 p0 = true ↔ (p0, r0) ∈ pred.zip ref := by
  rw [overlaps_eq_any, List.any_eq_true]
  exact ⟨fun ⟨z, hz, h⟩ => by simp at h; rwa [← h.1, ← h.2], fun h => ⟨_, h, by simp⟩⟩

theorem overlaps_swap' (pred ref : Flat) (r p : Lab) : overlaps ref pred p r = overlaps pred ref r p := by
  rw [overlaps_eq_any, overlaps_eq_any, zip_swap pred ref, List.any_map]
  exact List.any_congr rfl fun z => by simp [Bool.and_comm]

theorem foldl_add_maskVals (X : List Bool) (n : Nat) :
    (maskVals X).foldl (· + ·) n = n + card X := by
  induction X generalizing n with
  | nil => simp [maskVals, card]
  | cons b bs ih =>
    simp only [maskVals, card] at ih ⊢
    cases b <;> simp [ih]; omega

theorem sumVals_maskVals (X : List Bool) : sumVals (maskVals X) = card X := by
  simp [sumVals, foldl_add_maskVals]

theorem zip_self {α : Type} (l : List α) : l.zip l = l.map fun x => (x, x) := by
  induction l with
  | nil => rfl
  | cons x xs ih => simp [ih]

theorem cardInter_self (X : List Bool) : cardInter X X = card X := by
  rw [cardInter_eq_countP, card_eq_countP, zip_self, List.countP_map]
  exact List.countP_congr (by simp)

theorem cardUnion_self (X : List Bool) : cardUnion X X = card X := by
  rw [cardUnion_eq_countP, card_eq_countP, zip_self, List.countP_map]
  exact List.countP_congr (by simp)

theorem selPred_single (a : Flat) (p : Lab) : selPred a [p] = selRef a p := by
  simp only [selPred, selRef]
  apply List.map_congr_left
  intro x _
  cases h : x == p <;> simp [List.contains, List.elem, h]

theorem card_selPred_single (a : Flat) (p : Lab) : card (selPred a [p]) = cnt a p := by
  rw [selPred_single, card_selRef]

end Panoptica
