/- `Reach adj V` is an equivalence relation on `V` for symmetric `adj`, and monotone in `V` -/
import Panoptica.Spec.Reach
namespace Panoptica
open Panoptica.Spec

variable {α : Type}

theorem Reach.mem_right {adj : α → α → Bool} {V : List α} {a b : α} (h : Reach adj V a b) :
    b ∈ V := by
  cases h with
  | refl h => exact h
  | step _ h _ => exact h

theorem Reach.mem_left {adj : α → α → Bool} {V : List α} {a b : α} (h : Reach adj V a b) :
    a ∈ V := by
  induction h with
  | refl h => exact h
  | step _ _ _ ih => exact ih

theorem Reach.trans {adj : α → α → Bool} {V : List α} {a b c : α}
    (h1 : Reach adj V a b) (h2 : Reach adj V b c) : Reach adj V a c := by
  induction h2 with
  | refl _ => exact h1
  | step _ hc hadj ih => exact Reach.step ih hc hadj

theorem Reach.symm {adj : α → α → Bool} (hsymm : ∀ a b, adj a b = adj b a) {V : List α} {a b : α}
    (h : Reach adj V a b) : Reach adj V b a := by
  induction h with
  | refl h => exact Reach.refl _ h
  | @step b c _ hc hadj ih =>
    have hb : b ∈ V := Reach.mem_left ih
    have hcb : Reach adj V c b :=
      Reach.step (Reach.refl c hc) hb (by rw [hsymm]; exact hadj)
    exact Reach.trans hcb ih

theorem Reach.mono {adj : α → α → Bool} {V V' : List α} (hsub : ∀ x ∈ V, x ∈ V') {a b : α}
    (h : Reach adj V a b) : Reach adj V' a b := by
  induction h with
  | refl ha => exact Reach.refl _ (hsub _ ha)
  | step _ hc hadj ih => exact Reach.step ih (hsub _ hc) hadj

end Panoptica
