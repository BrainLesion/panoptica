/- helper lemmas for C16 / C17 (aggregator machine invariants) -/
import Panoptica.Model.Aggregator
namespace Panoptica.Agg

/-! ### auxiliary predicates on program counters -/

/-- thread holds `inevalfilelock` -/
def holds1 : PC → Bool
  | .read | .writeBuf | .relL1 | .relL1Skip => true
  | _ => false

/-- thread holds `filelock` -/
def holds2 : PC → Bool
  | .writeOut1 | .writeOut2 | .relL2 | .sRead | .sRel => true
  | _ => false

/-- claimed in the buffer, row not yet appended -/
def pending : PC → Bool
  | .relL1 | .compute | .wantL2 | .writeOut1 => true
  | _ => false

/-- the row of this thread has been appended -/
def wrote : PC → Bool
  | .writeOut2 | .relL2 | .done => true
  | _ => false

def statPc : PC → Bool
  | .sWant | .sRead | .sRel => true
  | _ => false

def initPc (kind : Nat → Kind) (i : Nat) : PC :=
  match kind i with | .eval => .start | .stat => .sWant

def names (l : List Row) : List Nat := l.map (·.name)

theorem names_nil : names [] = [] := rfl

theorem names_append (l : List Row) (r : Row) : names (l ++ [r]) = names l ++ [r.name] := by
  simp [names]

theorem mem_names_of_mem {l : List Row} {r : Row} (h : r ∈ l) : r.name ∈ names l :=
  List.mem_map.mpr ⟨r, h, rfl⟩

theorem exists_of_mem_names {l : List Row} {n : Nat} (h : n ∈ names l) : ∃ r ∈ l, r.name = n :=
  List.mem_map.mp h

/-! ### completeLast -/

theorem names_completeLast : ∀ l : List Row, names (completeLast l) = names l
  | [] => rfl
  | [r] => rfl
  | r :: r' :: rs => by
    have ih := names_completeLast (r' :: rs)
    simp only [completeLast, names, List.map_cons] at ih ⊢
    rw [ih]

theorem completeLast_complete : ∀ l : List Row,
    (∀ r ∈ l.dropLast, r.complete = true) → ∀ r ∈ completeLast l, r.complete = true
  | [], _, r, hr => by simp [completeLast] at hr
  | [x], _, r, hr => by
    simp only [completeLast, List.mem_singleton] at hr
    subst hr; rfl
  | x :: y :: rs, h, r, hr => by
    simp only [completeLast, List.mem_cons] at hr
    rw [List.dropLast_cons_cons] at h
    rcases hr with hr | hr
    · subst hr; exact h r List.mem_cons_self
    · exact completeLast_complete (y :: rs) (fun r' hr' => h r' (List.mem_cons_of_mem _ hr')) r hr

/-- every row of `completeLast l` comes from a row of `l` with the same name and thread, and is
    that very row if the latter was complete -/
theorem mem_completeLast : ∀ (l : List Row) (r : Row), r ∈ completeLast l →
    ∃ r' ∈ l, r'.name = r.name ∧ r'.tid = r.tid ∧ (r'.complete = true → r' = r)
  | [], r, hr => by simp [completeLast] at hr
  | [x], r, hr => by
    simp only [completeLast, List.mem_singleton] at hr
    subst hr
    refine ⟨x, List.mem_singleton.mpr rfl, rfl, rfl, ?_⟩
    intro hc; cases x; simp_all
  | x :: y :: rs, r, hr => by
    simp only [completeLast, List.mem_cons] at hr
    rcases hr with hr | hr
    · subst hr; exact ⟨r, List.mem_cons_self, rfl, rfl, fun _ => rfl⟩
    · obtain ⟨r', h1, h2⟩ := mem_completeLast (y :: rs) r hr
      exact ⟨r', List.mem_cons_of_mem _ h1, h2⟩

theorem mem_completeLast_of_complete : ∀ (l : List Row) (r : Row), r ∈ l → r.complete = true →
    r ∈ completeLast l
  | [], r, hr, _ => by simp at hr
  | [x], r, hr, hc => by
    simp only [List.mem_singleton] at hr
    subst hr
    simp only [completeLast, List.mem_singleton]
    cases r; simp_all
  | x :: y :: rs, r, hr, hc => by
    simp only [completeLast, List.mem_cons]
    rcases List.mem_cons.mp hr with hr | hr
    · exact Or.inl hr
    · exact Or.inr (mem_completeLast_of_complete (y :: rs) r hr hc)

/-! ### the protocol invariant -/

structure Inv (name : Nat → Nat) (kind : Nat → Kind) (old : List Row) (s : St) : Prop where
  bufNodup : s.buf.Nodup
  outNodup : (names s.out).Nodup
  outSub : ∀ n ∈ names s.out, n ∈ s.buf
  l1Own : ∀ i, holds1 (s.pc i) = true ↔ s.l1 = some i
  l2Own : ∀ i, holds2 (s.pc i) = true ↔ s.l2 = some i
  pendIn : ∀ i, pending (s.pc i) = true → name i ∈ s.buf ∧ name i ∉ names s.out
  pendUniq : ∀ i j, pending (s.pc i) = true → pending (s.pc j) = true → name i = name j → i = j
  wbFresh : ∀ i, s.pc i = .writeBuf → name i ∉ s.buf
  covered : ∀ n ∈ s.buf, n ∈ names s.out ∨ ∃ i, pending (s.pc i) = true ∧ name i = n
  doneIn : ∀ i, kind i = .eval →
    (s.pc i = .done ∨ s.pc i = .relL2 ∨ s.pc i = .relL1Skip ∨ s.pc i = .writeOut2) → name i ∈ s.buf
  partialA : ∀ r ∈ s.out.dropLast, r.complete = true
  partialB : ∀ r ∈ s.out, r.complete = false → s.pc r.tid = .writeOut2
  rowTid : ∀ r ∈ s.out, r ∈ old ∨ (kind r.tid = .eval ∧ name r.tid = r.name ∧ wrote (s.pc r.tid) = true)
  oldC : ∀ r ∈ old, r.complete = true
  oldKept : ∀ r ∈ old, r ∈ s.out
  seenC : ∀ i, ∀ r ∈ s.seen i, r.complete = true
  kindStat : ∀ i, kind i = .stat → statPc (s.pc i) = true ∨ s.pc i = .done
  kindEval : ∀ i, kind i = .eval → statPc (s.pc i) = false

/-! ### every step preserves the invariant

The clauses see the program counters only through a few observations (`holds1`, `holds2`,
`pending`, `wrote`, `statPc`, being at `writeBuf` / `writeOut2` / past the claim). A step of thread
`i` changes `pc i` alone, so a clause can only be touched through an observation the step changes
for `i`, or through the file contents. Ten of the fourteen steps change nothing but program counter
and locks (`Inv.move`); the other four write the buffer, the output or a statistics snapshot. -/

section steps
variable {name : Nat → Nat} {kind : Nat → Kind} {old : List Row} {s : St} {i : Nat}

theorem upd_self {α : Type} (f : Nat → α) (i : Nat) (v : α) : upd f i v i = v := if_pos rfl

theorem upd_ne {α : Type} (f : Nat → α) {i j : Nat} (v : α) (h : j ≠ i) : upd f i v j = f j :=
  if_neg h

/-- an observation `f` that thread `i`'s move does not change for `i` is unchanged for everyone -/
theorem obs_upd {β : Type} (f : PC → β) {pc : Nat → PC} {i : Nat} {b : PC} (h : f b = f (pc i))
    (j : Nat) : f (upd pc i b j) = f (pc j) := by
  unfold upd; split
  · subst_vars; exact h
  · rfl

/-- what a step of thread `i` from `a` to `b` may do to a lock held exactly where `hold` says -/
inductive LockMove (hold : PC → Bool) (i : Nat) (a b : PC) (l l' : Option Nat) : Prop
  | keep (hl : l' = l) (hb : hold b = hold a)
  | acquire (hf : l = none) (hl : l' = some i) (hb : hold b = true)
  | release (ha : hold a = true) (hl : l' = none) (hb : hold b = false)

theorem LockMove.own {hold : PC → Bool} {a b : PC} {l l' : Option Nat} {pc : Nat → PC}
    (m : LockMove hold i a b l l') (ha : pc i = a) (h : ∀ j, hold (pc j) = true ↔ l = some j) :
    ∀ j, hold (upd pc i b j) = true ↔ l' = some j := by
  intro j
  cases m with
  | keep hl hb => rw [hl, obs_upd hold (by rw [ha, hb])]; exact h j
  | acquire hf hl hb =>
    by_cases hj : j = i
    · rw [hj, upd_self, hb, hl]; simp
    · rw [upd_ne _ _ hj, h j, hf, hl]; simp [Ne.symm hj]
  | release hai hl hb =>
    have hli : l = some i := (h i).mp (ha ▸ hai)
    by_cases hj : j = i
    · rw [hj, upd_self, hb, hl]; simp
    · rw [upd_ne _ _ hj, h j, hli, hl]; simp [Ne.symm hj]

/-- a move that respects the kind of its thread: the program counters of a statistics thread are
    `sWant`, `sRead`, `sRel`, `done`, those of an evaluating thread all others and `done` -/
def KindMove (a b : PC) : Prop :=
  (statPc a = true ∨ a = .done → statPc b = true ∨ b = .done) ∧ (statPc a = false → statPc b = false)

/-- the finite side conditions of `Inv.move`: the move changes neither the thread's claim on its
    subject nor its row -/
def Quiet (a b : PC) : Prop :=
  pending b = pending a ∧ (wrote a = true → wrote b = true) ∧ (a = .writeOut2 → b = .relL2) ∧
  ((b = .done ∨ b = .relL2 ∨ b = .writeOut2) →
    (a = .done ∨ a = .relL2 ∨ a = .relL1Skip ∨ a = .writeOut2) ∨ statPc a = true) ∧
  KindMove a b

instance (a b : PC) : Decidable (KindMove a b) := by unfold KindMove; exact inferInstance
instance (a b : PC) : Decidable (Quiet a b) := by unfold Quiet; exact inferInstance

/-- what a move into `b` has to know about the files -/
def Entry (name : Nat → Nat) (s : St) (i : Nat) : PC → Prop
  | .writeBuf => name i ∉ s.buf
  | .relL1Skip => name i ∈ s.buf
  | .relL2 => ∀ r ∈ s.out, r.complete = true
  | _ => True

theorem Inv.kind_upd {a b : PC} (h : Inv name kind old s) (ha : s.pc i = a) (q : KindMove a b) :
    (∀ j, kind j = .stat → statPc (upd s.pc i b j) = true ∨ upd s.pc i b j = .done) ∧
    ∀ j, kind j = .eval → statPc (upd s.pc i b j) = false := by
  constructor <;> intro j hk <;> by_cases e : j = i
  · rw [e, upd_self]; exact q.1 (ha ▸ h.kindStat i (e ▸ hk))
  · rw [upd_ne _ _ e]; exact h.kindStat j hk
  · rw [e, upd_self]; exact q.2 (ha ▸ h.kindEval i (e ▸ hk))
  · rw [upd_ne _ _ e]; exact h.kindEval j hk

/-- a step that touches only program counter and locks -/
theorem Inv.move {a b : PC} {l1' l2' : Option Nat} (h : Inv name kind old s) (ha : s.pc i = a)
    (m1 : LockMove holds1 i a b s.l1 l1') (m2 : LockMove holds2 i a b s.l2 l2') (q : Quiet a b)
    (hb : Entry name s i b) :
    Inv name kind old { s with l1 := l1', l2 := l2', pc := upd s.pc i b } := by
  obtain ⟨qp, qw, qo, qd, qs⟩ := q
  have hp : ∀ j, pending (upd s.pc i b j) = pending (s.pc j) := obs_upd pending (by rw [ha, qp])
  exact {
    bufNodup := h.bufNodup, outNodup := h.outNodup, outSub := h.outSub, partialA := h.partialA
    oldC := h.oldC, oldKept := h.oldKept, seenC := h.seenC
    l1Own := m1.own ha h.l1Own
    l2Own := m2.own ha h.l2Own
    kindStat := (h.kind_upd ha qs).1
    kindEval := (h.kind_upd ha qs).2
    pendIn := fun j hj => h.pendIn j (hp j ▸ hj)
    pendUniq := fun j k hj hk => h.pendUniq j k (hp j ▸ hj) (hp k ▸ hk)
    covered := fun n hn => (h.covered n hn).imp_right fun ⟨j, hj, e⟩ => ⟨j, (hp j).symm ▸ hj, e⟩
    wbFresh := fun j (hj : upd s.pc i b j = .writeBuf) => by
      by_cases e : j = i
      · rw [e, upd_self] at hj; subst hj; exact e ▸ hb
      · exact h.wbFresh j (upd_ne s.pc b e ▸ hj)
    doneIn := fun j hk (hj : upd s.pc i b j = _ ∨ upd s.pc i b j = _ ∨ upd s.pc i b j = _ ∨
        upd s.pc i b j = _) => by
      by_cases e : j = i
      · subst e
        rw [upd_self] at hj
        by_cases hs : b = .relL1Skip
        · subst hs; exact hb
        · rcases qd (by simpa [hs] using hj) with h1 | h1
          · exact h.doneIn j hk (ha ▸ h1)
          · rw [← ha, h.kindEval j hk] at h1; cases h1
      · exact h.doneIn j hk (upd_ne s.pc b e ▸ hj)
    partialB := fun r hr hc => by
      have hw := h.partialB r hr hc
      show upd s.pc i b r.tid = _
      by_cases e : r.tid = i
      · have hb' := qo (by rw [← ha, ← e, hw])
        subst hb'
        rw [hb r hr] at hc; cases hc
      · rwa [upd_ne _ _ e]
    rowTid := fun r hr => (h.rowTid r hr).imp_right fun ⟨hk, hn, hw⟩ => ⟨hk, hn, by
      show wrote (upd s.pc i b r.tid) = true
      by_cases e : r.tid = i
      · rw [e, upd_self]; exact qw (ha ▸ e ▸ hw)
      · rwa [upd_ne _ _ e]⟩ }

/-- while thread `i` holds the file lock outside the middle of its own write, every row is complete -/
theorem Inv.complete_of_holds2 (h : Inv name kind old s) (hi : holds2 (s.pc i) = true)
    (hne : s.pc i ≠ .writeOut2) : ∀ r ∈ s.out, r.complete = true := by
  intro r hr
  cases hc : r.complete with
  | true => rfl
  | false =>
    have hw := h.partialB r hr hc
    have e : some r.tid = some i :=
      ((h.l2Own r.tid).mp (by rw [hw]; rfl)).symm.trans ((h.l2Own i).mp hi)
    exact absurd (Option.some.inj e ▸ hw) hne

theorem Inv.completeLast (h : Inv name kind old s) :
    Inv name kind old { s with out := completeLast s.out } := by
  have hc := completeLast_complete s.out h.partialA
  have hn := names_completeLast s.out
  exact { h with
    outNodup := hn ▸ h.outNodup
    outSub := hn ▸ h.outSub
    pendIn := hn ▸ h.pendIn
    covered := hn ▸ h.covered
    partialA := fun r hr => hc r (List.dropLast_subset _ hr)
    partialB := fun r hr hf => by rw [hc r hr] at hf; cases hf
    rowTid := fun r hr => by
      obtain ⟨r', hr', e1, e2, e3⟩ := mem_completeLast s.out r hr
      rcases h.rowTid r' hr' with ho | hn
      · exact .inl (e3 (h.oldC r' ho) ▸ ho)
      · exact .inr (e1 ▸ e2 ▸ hn)
    oldKept := fun r hr => mem_completeLast_of_complete s.out r (h.oldKept r hr) (h.oldC r hr) }

theorem Inv.snapshot (h : Inv name kind old s) (ha : s.pc i = .sRead) :
    Inv name kind old { s with seen := upd s.seen i s.out } := by
  refine { h with seenC := fun j r (hr : r ∈ upd s.seen i s.out j) => ?_ }
  by_cases e : j = i
  · rw [e, upd_self] at hr
    exact h.complete_of_holds2 (i := i) (by rw [ha]; rfl) (by rw [ha]; nofun) r hr
  · exact h.seenC j r (upd_ne s.seen s.out e ▸ hr)

theorem nodup_concat {l : List Nat} {a : Nat} (hl : l.Nodup) (ha : a ∉ l) : (l ++ [a]).Nodup :=
  List.nodup_append.2 ⟨hl, List.pairwise_singleton _ _, fun _ hx _ hy e =>
    ha (List.mem_singleton.1 hy ▸ e ▸ hx)⟩

/-- the claim: thread `i`, under `inevalfilelock`, appends its unclaimed subject to the buffer -/
theorem Inv.writeBuf (h : Inv name kind old s) (ha : s.pc i = .writeBuf) :
    Inv name kind old { s with buf := s.buf ++ [name i], pc := upd s.pc i .relL1 } := by
  have hf := h.wbFresh i ha
  have hl : ∀ {n}, n ∈ s.buf → n ∈ s.buf ++ [name i] := List.mem_append_left _
  have hw : ∀ j, wrote (upd s.pc i .relL1 j) = wrote (s.pc j) := obs_upd wrote (by rw [ha]; rfl)
  exact {
    outNodup := h.outNodup, partialA := h.partialA, oldC := h.oldC, oldKept := h.oldKept
    seenC := h.seenC
    bufNodup := nodup_concat h.bufNodup hf
    outSub := fun n hn => hl (h.outSub n hn)
    l1Own := (LockMove.keep (a := .writeBuf) (b := .relL1) rfl rfl).own ha h.l1Own
    l2Own := (LockMove.keep (a := .writeBuf) (b := .relL1) rfl rfl).own ha h.l2Own
    kindStat := (h.kind_upd ha (by decide)).1
    kindEval := (h.kind_upd ha (by decide)).2
    pendIn := fun j (hj : pending (upd s.pc i .relL1 j) = true) => by
      by_cases e : j = i
      · subst e
        exact ⟨List.mem_append_right _ (List.mem_singleton_self _), fun hn => hf (h.outSub _ hn)⟩
      · rw [upd_ne _ _ e] at hj
        exact ⟨hl (h.pendIn j hj).1, (h.pendIn j hj).2⟩
    pendUniq := fun j k (hj : pending (upd s.pc i .relL1 j) = true)
        (hk : pending (upd s.pc i .relL1 k) = true) e => by
      -- a pending thread other than `i` has its subject in the buffer already, `i` has not
      by_cases ej : j = i <;> by_cases ek : k = i
      · rw [ej, ek]
      · rw [upd_ne _ _ ek] at hk; exact absurd (ej ▸ e ▸ (h.pendIn k hk).1) hf
      · rw [upd_ne _ _ ej] at hj; exact absurd (ek ▸ e ▸ (h.pendIn j hj).1) hf
      · rw [upd_ne _ _ ej] at hj; rw [upd_ne _ _ ek] at hk; exact h.pendUniq j k hj hk e
    wbFresh := fun j (hj : upd s.pc i .relL1 j = .writeBuf) => by
      -- only the owner of the lock is at `writeBuf`
      by_cases e : j = i
      · rw [e, upd_self] at hj; cases hj
      · rw [upd_ne _ _ e] at hj
        have e1 := (h.l1Own j).mp (by rw [hj]; rfl)
        have e2 := (h.l1Own i).mp (by rw [ha]; rfl)
        exact absurd (Option.some.inj (e1.symm.trans e2)) e
    covered := fun n (hn : n ∈ s.buf ++ [name i]) => by
      show _ ∨ ∃ j, pending (upd s.pc i .relL1 j) = true ∧ _
      rcases List.mem_append.1 hn with hn | hn
      · refine (h.covered n hn).imp_right fun ⟨j, hj, e⟩ => ⟨j, ?_, e⟩
        rwa [upd_ne _ _ fun e => by rw [e, ha] at hj; cases hj]
      · exact .inr ⟨i, by rw [upd_self]; rfl, (List.mem_singleton.1 hn).symm⟩
    doneIn := fun j hk (hj : upd s.pc i .relL1 j = _ ∨ upd s.pc i .relL1 j = _ ∨
        upd s.pc i .relL1 j = _ ∨ upd s.pc i .relL1 j = _) => by
      by_cases e : j = i
      · rw [e, upd_self] at hj; simp at hj
      · exact hl (h.doneIn j hk (upd_ne s.pc .relL1 e ▸ hj))
    partialB := fun r hr hc => by
      have := h.partialB r hr hc
      show upd s.pc i .relL1 r.tid = _
      rwa [upd_ne _ _ fun e => by rw [e, ha] at this; cases this]
    rowTid := fun r hr => (h.rowTid r hr).imp_right fun ⟨hk, hn, hx⟩ => ⟨hk, hn, (hw _).symm ▸ hx⟩ }

/-- the row: thread `i`, under `filelock`, appends the first half of its row -/
theorem Inv.writeOut1 (h : Inv name kind old s) (ha : s.pc i = .writeOut1) :
    Inv name kind old { s with out := s.out ++ [⟨name i, i, false⟩], pc := upd s.pc i .writeOut2 } := by
  obtain ⟨hib, hio⟩ := h.pendIn i (by rw [ha]; rfl)
  have hc := h.complete_of_holds2 (i := i) (by rw [ha]; rfl) (by rw [ha]; nofun)
  have hk : kind i = .eval := by
    cases hk : kind i with
    | eval => rfl
    | stat => have := h.kindStat i hk; simp [ha, statPc] at this
  have hn : names (s.out ++ [⟨name i, i, false⟩]) = names s.out ++ [name i] := names_append ..
  have hne : ∀ j, pending (upd s.pc i .writeOut2 j) = true → j ≠ i ∧ pending (s.pc j) = true := by
    intro j hj
    by_cases e : j = i
    · rw [e, upd_self] at hj; cases hj
    · exact ⟨e, upd_ne s.pc .writeOut2 e ▸ hj⟩
  exact {
    bufNodup := h.bufNodup, oldC := h.oldC, seenC := h.seenC
    outNodup := hn ▸ nodup_concat h.outNodup hio
    outSub := fun n hm => by
      rcases List.mem_append.1 (hn ▸ hm) with hm | hm
      · exact h.outSub n hm
      · exact List.mem_singleton.1 hm ▸ hib
    l1Own := (LockMove.keep (a := .writeOut1) (b := .writeOut2) rfl rfl).own ha h.l1Own
    l2Own := (LockMove.keep (a := .writeOut1) (b := .writeOut2) rfl rfl).own ha h.l2Own
    kindStat := (h.kind_upd ha (by decide)).1
    kindEval := (h.kind_upd ha (by decide)).2
    pendIn := fun j hj => by
      obtain ⟨e, hj⟩ := hne j hj
      refine ⟨(h.pendIn j hj).1, fun hm => ?_⟩
      rcases List.mem_append.1 (hn ▸ hm) with hm | hm
      · exact (h.pendIn j hj).2 hm
      · exact e (h.pendUniq j i hj (by rw [ha]; rfl) (List.mem_singleton.1 hm))
    pendUniq := fun j k hj hk => h.pendUniq j k (hne j hj).2 (hne k hk).2
    wbFresh := fun j (hj : upd s.pc i .writeOut2 j = .writeBuf) => by
      by_cases e : j = i
      · rw [e, upd_self] at hj; cases hj
      · exact h.wbFresh j (upd_ne s.pc .writeOut2 e ▸ hj)
    covered := fun n hm => by
      show n ∈ names (s.out ++ _) ∨ ∃ j, pending (upd s.pc i .writeOut2 j) = true ∧ _
      rw [hn]
      rcases h.covered n hm with hm | ⟨j, hj, e⟩
      · exact .inl (List.mem_append_left _ hm)
      · by_cases ej : j = i
        · exact .inl (List.mem_append_right _ (List.mem_singleton.2 (ej ▸ e.symm)))
        · exact .inr ⟨j, by rwa [upd_ne _ _ ej], e⟩
    doneIn := fun j hk (hj : upd s.pc i .writeOut2 j = _ ∨ upd s.pc i .writeOut2 j = _ ∨
        upd s.pc i .writeOut2 j = _ ∨ upd s.pc i .writeOut2 j = _) => by
      by_cases e : j = i
      · exact e ▸ hib
      · exact h.doneIn j hk (upd_ne s.pc .writeOut2 e ▸ hj)
    partialA := fun r (hr : r ∈ (s.out ++ _).dropLast) => hc r (by rwa [List.dropLast_concat] at hr)
    partialB := fun r (hr : r ∈ s.out ++ _) hf => by
      show upd s.pc i .writeOut2 r.tid = _
      rcases List.mem_append.1 hr with hr | hr
      · rw [hc r hr] at hf; cases hf
      · rw [List.mem_singleton.1 hr, upd_self]
    rowTid := fun r (hr : r ∈ s.out ++ _) => by
      show _ ∨ _ ∧ _ ∧ wrote (upd s.pc i .writeOut2 r.tid) = true
      rcases List.mem_append.1 hr with hr | hr
      · refine (h.rowTid r hr).imp_right fun ⟨hk, hn, hx⟩ => ⟨hk, hn, ?_⟩
        rwa [upd_ne _ _ fun e => by rw [e, ha] at hx; cases hx]
      · rw [List.mem_singleton.1 hr, upd_self]; exact .inr ⟨hk, rfl, rfl⟩
    oldKept := fun r hr => List.mem_append_left _ (h.oldKept r hr) }

theorem step_inv (name : Nat → Nat) (kind : Nat → Kind) (old : List Row) (s s' : St) (i : Nat)
    (h : Inv name kind old s) (hs : step name s i = some s') : Inv name kind old s' := by
  unfold step at hs
  split at hs
  all_goals (try split at hs) <;> (try cases hs) <;> (try (injection hs with hs; subst hs))
  · exact h.move (a := .start) ‹_› (.acquire ‹_› rfl rfl) (.keep rfl rfl) (by decide) trivial
  · exact h.move (a := .read) ‹_› (.keep rfl rfl) (.keep rfl rfl) (by decide) ‹_›
  · exact h.move (a := .read) ‹_› (.keep rfl rfl) (.keep rfl rfl) (by decide) ‹_›
  · exact h.writeBuf ‹_›
  · exact h.move (a := .relL1) ‹_› (.release rfl rfl rfl) (.keep rfl rfl) (by decide) trivial
  · exact h.move (a := .relL1Skip) ‹_› (.release rfl rfl rfl) (.keep rfl rfl) (by decide) trivial
  · exact h.move (a := .compute) ‹_› (.keep rfl rfl) (.keep rfl rfl) (by decide) trivial
  · exact h.move (a := .wantL2) ‹_› (.keep rfl rfl) (.acquire ‹_› rfl rfl) (by decide) trivial
  · exact h.writeOut1 ‹_›
  · exact h.completeLast.move (a := .writeOut2) ‹_› (.keep rfl rfl) (.keep rfl rfl) (by decide)
      (completeLast_complete s.out h.partialA)
  · exact h.move (a := .relL2) ‹_› (.keep rfl rfl) (.release rfl rfl rfl) (by decide) trivial
  · exact h.move (a := .sWant) ‹_› (.keep rfl rfl) (.acquire ‹_› rfl rfl) (by decide) trivial
  · exact (h.snapshot ‹_›).move (a := .sRead) ‹_› (.keep rfl rfl) (.keep rfl rfl) (by decide) trivial
  · exact h.move (a := .sRel) ‹_› (.keep rfl rfl) (.release rfl rfl rfl) (by decide) trivial

end steps

section runs
variable (name : Nat → Nat) (kind : Nat → Kind)

theorem run_inv (old : List Row) (sched : List Nat) :
    ∀ s, Inv name kind old s → Inv name kind old (run name s sched) := by
  induction sched with
  | nil => intro s h; exact h
  | cons i is ih =>
    intro s h
    unfold run
    split
    · rename_i s' hs; exact ih s' (step_inv name kind old s s' i h hs)
    · exact ih s h

theorem initPc_cases (i : Nat) : initPc kind i = .start ∨ initPc kind i = .sWant := by
  unfold initPc; cases kind i <;> simp

theorem initSt_pc (old : List Row) (i : Nat) : (initSt kind old).pc i = initPc kind i := rfl

theorem init_inv (old : List Row) (hn : (names old).Nodup) (hc : ∀ r ∈ old, r.complete = true) :
    Inv name kind old (initSt kind old) := by
  -- every thread is at `start` or `sWant`, where all observations of the invariant are `false`
  have ho : ∀ (f : PC → Bool), f .start = false → f .sWant = false → ∀ i,
      f ((initSt kind old).pc i) ≠ true := fun f h1 h2 i h => by
    rcases initPc_cases kind i with e | e <;> rw [initSt_pc, e] at h <;> simp_all
  have hp : ∀ i p, p ≠ .start → p ≠ .sWant → (initSt kind old).pc i ≠ p := fun i p h1 h2 e => by
    rcases initPc_cases kind i with e' | e' <;> rw [initSt_pc, e'] at e <;> simp_all
  exact {
    bufNodup := hn, outNodup := hn, outSub := fun _ h => h, oldC := hc, oldKept := fun _ h => h
    l1Own := fun i => ⟨fun h => absurd h (ho holds1 rfl rfl i), nofun⟩
    l2Own := fun i => ⟨fun h => absurd h (ho holds2 rfl rfl i), nofun⟩
    pendIn := fun i h => absurd h (ho pending rfl rfl i)
    pendUniq := fun i _ h => absurd h (ho pending rfl rfl i)
    wbFresh := fun i h => absurd h (hp i _ nofun nofun)
    covered := fun _ h => .inl h
    doneIn := fun i _ h => by
      rcases h with h | h | h | h <;> exact absurd h (hp i _ nofun nofun)
    partialA := fun r hr => hc r (List.dropLast_subset _ hr)
    partialB := fun r hr h => by rw [hc r hr] at h; cases h
    rowTid := fun _ h => .inl h
    seenC := fun _ _ h => nomatch h
    kindStat := fun i hk => .inl (by simp [initSt, hk, statPc])
    kindEval := fun i hk => by simp [initSt, hk, statPc] }

/-- every thread that has left its initial program counter is below `N` -/
def Moved (N : Nat) (s : St) : Prop := ∀ i, s.pc i ≠ initPc kind i → i < N

theorem init_moved (old : List Row) (N : Nat) : Moved kind N (initSt kind old) := by
  intro i h; exact absurd rfl h

theorem step_progress (s s' : St) (i : Nat) (h : step name s i = some s') :
    remaining (s'.pc i) < remaining (s.pc i) ∧ ∀ j, j ≠ i → s'.pc j = s.pc j := by
  unfold step at h
  split at h
  all_goals (try split at h) <;> (try cases h) <;> (try (injection h with h; subst h))
  all_goals simp_all [upd, remaining]

theorem step_moved (N : Nat) (s s' : St) (i : Nat) (hi : i < N) (hm : Moved kind N s)
    (h : step name s i = some s') : Moved kind N s' := by
  intro j hj
  by_cases hji : j = i
  · subst hji; exact hi
  · rw [(step_progress name s s' i h).2 j hji] at hj; exact hm j hj

theorem run_moved (N : Nat) (sched : List Nat) :
    ∀ s, (∀ i ∈ sched, i < N) → Moved kind N s → Moved kind N (run name s sched) := by
  induction sched with
  | nil => intro s _ h; exact h
  | cons i is ih =>
    intro s hs h
    unfold run
    split
    · rename_i s' hst
      exact ih s' (fun j hj => hs j (List.mem_cons_of_mem _ hj))
        (step_moved name kind N s s' i (hs i List.mem_cons_self) h hst)
    · exact ih s (fun j hj => hs j (List.mem_cons_of_mem _ hj)) h

theorem run_append (s : St) (a b : List Nat) : run name s (a ++ b) = run name (run name s a) b := by
  induction a generalizing s with
  | nil => rfl
  | cons i is ih =>
    simp only [List.cons_append, run]
    split <;> exact ih _

theorem final_rows_gen (old : List Row) (N : Nat) (s : St) (hinv : Inv name kind old s)
    (hm : Moved kind N s) (hdone : ∀ i < N, s.pc i = .done) :
    (names s.out).Nodup ∧ (∀ r ∈ s.out, r.complete = true) ∧
    (∀ i < N, kind i = .eval → ∃ r ∈ s.out, r.name = name i) ∧
    (∀ r ∈ old, r ∈ s.out) ∧
    (∀ r ∈ s.out, r ∈ old ∨ (r.tid < N ∧ kind r.tid = .eval ∧ name r.tid = r.name)) := by
  have hmv : ∀ j, s.pc j ≠ .start → s.pc j ≠ .sWant → s.pc j = .done := by
    intro j h1 h2
    apply hdone j (hm j _)
    rcases initPc_cases kind j with h | h <;> rw [h] <;> assumption
  refine ⟨hinv.outNodup, ?_, ?_, hinv.oldKept, ?_⟩
  · intro r hr
    cases hc : r.complete with
    | true => rfl
    | false =>
      have h1 := hinv.partialB r hr hc
      have h2 := hmv r.tid (by simp [h1]) (by simp [h1])
      rw [h1] at h2; cases h2
  · intro i hi hk
    have hb := hinv.doneIn i hk (Or.inl (hdone i hi))
    rcases hinv.covered _ hb with h | ⟨j, hj, hn⟩
    · exact exists_of_mem_names h
    · have h2 := hmv j (by intro h; simp [h, pending] at hj) (by intro h; simp [h, pending] at hj)
      simp [h2, pending] at hj
  · intro r hr
    rcases hinv.rowTid r hr with h | ⟨h1, h2, h3⟩
    · exact Or.inl h
    · refine Or.inr ⟨hm r.tid ?_, h1, h2⟩
      rcases initPc_cases kind r.tid with h | h <;> rw [h] <;> intro h' <;> simp [h', wrote] at h3

/-- a thread that cannot step is finished or waits for a lock that is taken -/
theorem step_none (s : St) (i : Nat) (h : step name s i = none) :
    s.pc i = .done ∨ (s.pc i = .start ∧ s.l1 ≠ none) ∨
      ((s.pc i = .wantL2 ∨ s.pc i = .sWant) ∧ s.l2 ≠ none) := by
  unfold step at h
  split at h <;> (try split at h) <;> simp_all

theorem no_deadlock_gen (old : List Row) (N : Nat) (s : St) (h : Inv name kind old s)
    (hm : Moved kind N s) (i : Nat) (hiN : i < N) (hi : s.pc i ≠ .done) :
    ∃ j, j < N ∧ (step name s j).isSome = true := by
  -- a thread inside a critical section has moved (so it is below `N`) and is never blocked
  have key : ∀ (hold : PC → Bool) o, hold (s.pc o) = true → hold .start = false →
      hold .sWant = false → hold .wantL2 = false → hold .done = false →
      ∃ j, j < N ∧ (step name s j).isSome = true := by
    intro hold o ho h1 h2 h3 h4
    refine ⟨o, hm o fun e => ?_, Option.isSome_iff_ne_none.2 fun e => ?_⟩
    · rcases initPc_cases kind o with e' | e' <;> rw [e, e'] at ho <;> simp_all
    · rcases step_none name s o e with e | ⟨e, _⟩ | ⟨e | e, _⟩ <;> rw [e] at ho <;> simp_all
  cases hs : step name s i with
  | some _ => exact ⟨i, hiN, by rw [hs]; rfl⟩
  | none =>
    rcases step_none name s i hs with e | ⟨_, hl⟩ | ⟨_, hl⟩
    · exact absurd e hi
    · obtain ⟨o, ho⟩ := Option.ne_none_iff_exists'.1 hl
      exact key holds1 o ((h.l1Own o).2 ho) rfl rfl rfl rfl
    · obtain ⟨o, ho⟩ := Option.ne_none_iff_exists'.1 hl
      exact key holds2 o ((h.l2Own o).2 ho) rfl rfl rfl rfl

/-- total number of steps the threads below `N` still have to take -/
def total (pc : Nat → PC) : Nat → Nat
  | 0 => 0
  | n + 1 => total pc n + remaining (pc n)

theorem total_congr (f g : Nat → PC) : ∀ N, (∀ i < N, f i = g i) → total f N = total g N
  | 0, _ => rfl
  | n + 1, h => by
    simp only [total]
    rw [total_congr f g n (fun i hi => h i (Nat.lt_succ_of_lt hi)), h n (Nat.lt_succ_self n)]

theorem total_lt (f g : Nat → PC) (j : Nat) (hj : remaining (f j) < remaining (g j))
    (ho : ∀ i, i ≠ j → f i = g i) : ∀ N, j < N → total f N < total g N
  | 0, h => absurd h (Nat.not_lt_zero _)
  | n + 1, h => by
    simp only [total]
    by_cases hjn : j = n
    · subst hjn
      rw [total_congr f g j (fun i hi => ho i (Nat.ne_of_lt hi))]
      omega
    · have := total_lt f g j hj ho n (by omega)
      rw [ho n (fun h => hjn h.symm)]
      omega

theorem total_zero (f : Nat → PC) : ∀ N, total f N = 0 → ∀ i < N, f i = .done
  | 0, _, i, hi => absurd hi (Nat.not_lt_zero _)
  | n + 1, h, i, hi => by
    simp only [total] at h
    by_cases hin : i = n
    · subst hin
      have : remaining (f i) = 0 := by omega
      revert this; cases f i <;> simp [remaining]
    · exact total_zero f n (by omega) i (by omega)

theorem can_finish_gen (old : List Row) (N : Nat) : ∀ (m : Nat) (s : St), total s.pc N = m →
    Inv name kind old s → Moved kind N s →
    ∃ more : List Nat, (∀ i ∈ more, i < N) ∧ ∀ i < N, (run name s more).pc i = .done := by
  intro m
  induction m using Nat.strongRecOn with
  | _ m ih =>
    intro s hm hinv hmv
    by_cases hall : ∀ i < N, s.pc i = .done
    · exact ⟨[], by simp, hall⟩
    · have ⟨i, hi⟩ : ∃ i, i < N ∧ s.pc i ≠ .done := by
        apply Classical.byContradiction
        intro hne
        apply hall
        intro i hi
        apply Classical.byContradiction
        intro hd
        exact hne ⟨i, hi, hd⟩
      obtain ⟨j, hjN, hj⟩ := no_deadlock_gen name kind old N s hinv hmv i hi.1 hi.2
      obtain ⟨s', hs'⟩ := Option.isSome_iff_exists.mp hj
      have hp := step_progress name s s' j hs'
      have hlt : total s'.pc N < m := by
        rw [← hm]; exact total_lt s'.pc s.pc j hp.1 hp.2 N hjN
      obtain ⟨more, h1, h2⟩ := ih _ hlt s' rfl (step_inv name kind old s s' j hinv hs')
        (step_moved name kind N s s' j hjN hmv hs')
      refine ⟨j :: more, ?_, ?_⟩
      · intro k hk
        rcases List.mem_cons.mp hk with hk | hk
        · subst hk; exact hjN
        · exact h1 k hk
      · intro k hk
        simp only [run, hs']
        exact h2 k hk

end runs

/-! ### constructor, crash, restart -/

section world
variable (name : Nat → Nat)

/-- same as `C17.FileOK` -/
def FileOK' (w : World) : Prop :=
  (w.outExists = false → w.hdrs = 0 ∧ w.st.out = []) ∧
  w.hdrs ≤ 1 ∧
  (w.st.out ≠ [] → w.hdrs = 1) ∧
  (w.st.out.map (·.name)).Nodup ∧
  (∀ r ∈ w.st.out, r.complete = false → w.phase = .running ∧ w.st.pc r.tid = .writeOut2)

/-- what the constructor has established when it is about to execute `pc` -/
def CtorOK (w : World) : CPC → Prop
  | .checkExists => True
  | .writeHdrNew => w.outExists = false
  | .readHdr => w.outExists = true
  | .writeHdrEmpty => w.outExists = true ∧ w.hdrs = 0 ∧ w.st.out = []
  | .rmBuf => w.outExists = true ∧ w.hdrs = 1
  | .mkBuf => w.outExists = true ∧ w.hdrs = 1 ∧ w.st.buf = []
  | .acq1 => w.outExists = true ∧ w.hdrs = 1 ∧ w.st.buf = []
  | .acq2 => w.outExists = true ∧ w.hdrs = 1 ∧ w.st.buf = [] ∧ w.st.l1 = some 0
  | .readIds => w.outExists = true ∧ w.hdrs = 1 ∧ w.st.buf = [] ∧ w.st.l1 = some 0 ∧ w.st.l2 = some 0
  | .writeIds ids => w.outExists = true ∧ w.hdrs = 1 ∧ w.st.buf = [] ∧ w.st.l1 = some 0 ∧
      w.st.l2 = some 0 ∧ ids = names w.st.out
  | .rel2 => w.outExists = true ∧ w.hdrs = 1 ∧ w.st.buf = names w.st.out ∧ w.st.l1 = some 0 ∧
      w.st.l2 = some 0
  | .rel1 => w.outExists = true ∧ w.hdrs = 1 ∧ w.st.buf = names w.st.out ∧ w.st.l1 = some 0 ∧
      w.st.l2 = none

def PhaseOK (w : World) : Phase → Prop
  | .idle => True
  | .failed => False
  | .running => w.outExists = true ∧ w.hdrs = 1 ∧ ∃ kind old, Inv name kind old w.st
  | .ctor pc => (∃ kind, w.st.pc = initPc kind ∧ w.st.seen = fun _ => []) ∧ CtorOK w pc

def WInv (w : World) : Prop := FileOK' w ∧ PhaseOK name w w.phase

theorem initSt_eq (kind : Nat → Kind) (st : St) (h1 : st.buf = names st.out) (h2 : st.l2 = none)
    (h3 : st.pc = initPc kind) (h4 : st.seen = fun _ => []) :
    { st with l1 := none } = initSt kind st.out := by
  obtain ⟨b, o, l1, l2, pc, seen⟩ := st
  simp only at h1 h2 h3 h4
  subst h1 h2 h3 h4
  rfl

theorem step_out_kept (s s' : St) (i : Nat) (h : step name s i = some s') (r : Row)
    (hr : r ∈ s.out) (hc : r.complete = true) : r ∈ s'.out := by
  have e4 := mem_completeLast_of_complete s.out r hr hc
  unfold step at h
  split at h
  all_goals (try split at h) <;> (try cases h) <;> (try (injection h with h; subst h))
  all_goals simp_all

theorem wstep_out_kept (w : World) (op : Op) (r : Row)
    (hr : r ∈ w.st.out) (hc : r.complete = true) : r ∈ (wstep name w op).st.out := by
  cases op with
  | newSession kind => simp only [wstep]; split <;> exact hr
  | ctor =>
    simp only [wstep]; split
    · rename_i pc _
      cases pc <;> simp only [ctorStep] <;> (try split) <;> (try split) <;> exact hr
    · exact hr
  | thread i =>
    simp only [wstep]; split
    · split
      · rename_i s' hs; exact step_out_kept name w.st s' i hs r hr hc
      · exact hr
    · exact hr
  | crash => simp only [wstep]; split <;> exact hr

theorem wrun_out_kept (ops : List Op) : ∀ (w : World) (r : Row),
    r ∈ w.st.out → r.complete = true → r ∈ (wrun name w ops).st.out := by
  induction ops with
  | nil => intro w r hr _; exact hr
  | cons op ops ih =>
    intro w r hr hc
    exact ih (wstep name w op) r (wstep_out_kept name w op r hr hc) hc

theorem rows_complete_of_not_running (w : World) (hf : FileOK' w) (hp : w.phase ≠ .running) :
    ∀ r ∈ w.st.out, r.complete = true := by
  intro r hr
  cases hc : r.complete with
  | true => rfl
  | false => exact absurd (hf.2.2.2.2 r hr hc).1 hp

theorem winv_ctor (w : World) (pc : CPC) (hw : WInv name w) (hph : w.phase = .ctor pc) :
    WInv name (ctorStep w pc) := by
  obtain ⟨hf, hp⟩ := hw
  have hcomp := rows_complete_of_not_running w hf (by rw [hph]; nofun)
  obtain ⟨f1, f2, f3, f4, -⟩ := hf
  rw [hph] at hp
  obtain ⟨hk, hc⟩ := hp
  -- no constructor step touches the rows, and all of them are complete: `FileOK'` only has to be
  -- re-established for the existence flag and the header count
  have file : ∀ {oe : Bool} {hd : Nat} {be : Bool} {b : List Nat} {l1 l2 : Option Nat} {ph : Phase},
      (oe = false → hd = 0 ∧ w.st.out = []) → hd ≤ 1 → (w.st.out ≠ [] → hd = 1) →
      FileOK' ⟨oe, hd, be, { w.st with buf := b, l1 := l1, l2 := l2 }, ph⟩ :=
    fun h1 h2 h3 => ⟨h1, h2, h3, f4, fun r hr h => by rw [hcomp r hr] at h; cases h⟩
  have file' : ∀ {be : Bool} {b : List Nat} {l1 l2 : Option Nat} {ph : Phase},
      FileOK' ⟨w.outExists, w.hdrs, be, { w.st with buf := b, l1 := l1, l2 := l2 }, ph⟩ := file f1 f2 f3
  cases pc with
  | checkExists =>
    refine ⟨file', hk, ?_⟩
    show CtorOK _ (if w.outExists then .readHdr else .writeHdrNew)
    cases h : w.outExists <;> exact h
  | writeHdrNew =>
    obtain ⟨h0, ho⟩ := f1 hc
    exact ⟨file nofun (by omega) (absurd ho), hk, rfl, by show w.hdrs + 1 = 1; omega⟩
  | readHdr =>
    simp only [ctorStep]
    split
    · exact ⟨file', hk, hc, ‹_ ∧ _›⟩
    · rename_i hne
      split
      · rename_i h0
        have := f3 fun h => hne ⟨h0, h⟩
        omega
      · exact ⟨file', hk, hc, by show w.hdrs = 1; omega⟩
  | writeHdrEmpty =>
    obtain ⟨c1, c2, c3⟩ := hc
    exact ⟨file (fun h => by rw [c1] at h; cases h) (by omega) (absurd c3), hk, c1, by show w.hdrs + 1 = 1; omega⟩
  | rmBuf => exact ⟨file', hk, hc.1, hc.2, rfl⟩
  | mkBuf => exact ⟨file', hk, hc⟩
  | acq1 => exact ⟨file', hk, hc.1, hc.2.1, hc.2.2, rfl⟩
  | acq2 => exact ⟨file', hk, hc.1, hc.2.1, hc.2.2.1, hc.2.2.2, rfl⟩
  | readIds => exact ⟨file', hk, hc.1, hc.2.1, hc.2.2.1, hc.2.2.2.1, hc.2.2.2.2, rfl⟩
  | writeIds ids =>
    obtain ⟨c1, c2, c3, c4, c5, c6⟩ := hc
    exact ⟨file', hk, c1, c2, by show w.st.buf ++ ids = _; rw [c3, c6]; rfl, c4, c5⟩
  | rel2 => exact ⟨file', hk, hc.1, hc.2.1, hc.2.2.1, hc.2.2.2.1, rfl⟩
  | rel1 =>
    obtain ⟨c1, c2, c3, c4, c5⟩ := hc
    obtain ⟨kind, hk1, hk2⟩ := hk
    refine ⟨file', c1, c2, kind, w.st.out, ?_⟩
    show Inv name kind w.st.out { w.st with l1 := none }
    rw [initSt_eq kind w.st c3 c5 hk1 hk2]
    exact init_inv name kind w.st.out f4 hcomp

theorem winv_thread (w : World) (i : Nat) (s' : St) (hw : WInv name w) (hph : w.phase = .running)
    (hs : step name w.st i = some s') : WInv name { w with st := s' } := by
  obtain ⟨⟨f1, f2, f3, f4, f5⟩, hp⟩ := hw
  rw [hph] at hp
  obtain ⟨c1, c2, kind, old, hinv⟩ := hp
  have hinv' := step_inv name kind old w.st s' i hinv hs
  refine ⟨⟨?_, f2, fun _ => c2, hinv'.outNodup, ?_⟩, ?_⟩
  · intro h; simp only at h; rw [c1] at h; cases h
  · intro r hr hc; exact ⟨hph, hinv'.partialB r hr hc⟩
  · simp only [hph]
    exact ⟨c1, c2, kind, old, hinv'⟩

theorem winv_step (w : World) (op : Op) (hw : WInv name w) : WInv name (wstep name w op) := by
  cases op with
  | newSession kind =>
    simp only [wstep]; split
    · rename_i hph
      have hcomp := rows_complete_of_not_running w hw.1 (by rw [hph]; intro h; cases h)
      obtain ⟨⟨f1, f2, f3, f4, f5⟩, _⟩ := hw
      refine ⟨⟨f1, f2, f3, f4, ?_⟩, ⟨kind, rfl, rfl⟩, trivial⟩
      intro r hr hc'; have := hcomp r hr; rw [hc'] at this; cases this
    · exact hw
  | ctor =>
    simp only [wstep]; split
    · rename_i pc hph; exact winv_ctor name w pc hw hph
    · exact hw
  | thread i =>
    simp only [wstep]; split
    · rename_i hph
      split
      · rename_i s' hs; exact winv_thread name w i s' hw hph hs
      · exact hw
    · exact hw
  | crash =>
    simp only [wstep]; split
    · exact hw
    · rename_i hmid
      obtain ⟨⟨f1, f2, f3, f4, f5⟩, _⟩ := hw
      refine ⟨⟨f1, f2, f3, f4, ?_⟩, trivial⟩
      intro r hr hc
      exact absurd ⟨r, hr, hc⟩ hmid

theorem winv_run (ops : List Op) : ∀ w : World, WInv name w → WInv name (wrun name w ops) := by
  induction ops with
  | nil => intro w h; exact h
  | cons op ops ih => intro w h; exact ih _ (winv_step name w op h)

theorem winv_of_idle (w : World) (hf : FileOK' w) (hidle : w.phase = .idle) : WInv name w := by
  refine ⟨hf, ?_⟩; rw [hidle]; trivial

theorem wrun_append (w : World) (a b : List Op) :
    wrun name w (a ++ b) = wrun name (wrun name w a) b := List.foldl_append

theorem wrun_threads (sched : List Nat) : ∀ w : World, w.phase = .running →
    wrun name w (sched.map Op.thread) = { w with st := run name w.st sched } := by
  induction sched with
  | nil => intro w _; rfl
  | cons i is ih =>
    intro w hph
    simp only [List.map_cons, wrun, List.foldl_cons, run]
    cases hs : step name w.st i with
    | none =>
      have e : wstep name w (Op.thread i) = w := by simp only [wstep, hph, hs]
      rw [e]; exact ih w hph
    | some s' =>
      have e : wstep name w (Op.thread i) = { w with st := s' } := by simp only [wstep, hph, hs]
      rw [e]; exact ih { w with st := s' } hph

theorem ctor_run_eq (w : World) (hf : FileOK' w) (hidle : w.phase = .idle) (kind : Nat → Kind) :
    wrun name w (Op.newSession kind :: List.replicate 12 Op.ctor) =
      { outExists := true, hdrs := 1, bufExists := true, st := initSt kind w.st.out,
        phase := .running } := by
  obtain ⟨oe, hdrs, be, st, ph⟩ := w
  obtain ⟨f1, f2, f3, f4, f5⟩ := hf
  simp only at hidle f1 f2 f3
  subst hidle
  cases oe with
  | false =>
    obtain ⟨h1, h2⟩ := f1 rfl
    subst h1
    simp [wrun, wstep, ctorStep, List.replicate, h2, initSt]
  | true =>
    by_cases h0 : hdrs = 0
    · subst h0
      have h2 : st.out = [] := by
        apply Classical.byContradiction; intro h; have := f3 h; omega
      simp [wrun, wstep, ctorStep, List.replicate, h2, initSt]
    · have h1 : hdrs = 1 := by omega
      subst h1
      simp [wrun, wstep, ctorStep, List.replicate, initSt]

theorem restart_gen (w : World) (hf : FileOK' w) (hidle : w.phase = .idle) (kind : Nat → Kind)
    (N : Nat) (sched : List Nat) (hsched : ∀ i ∈ sched, i < N)
    (hdone : ∀ i < N,
      (wrun name w (Op.newSession kind :: List.replicate 12 Op.ctor ++ sched.map Op.thread)).st.pc i = .done) :
    let w' := wrun name w (Op.newSession kind :: List.replicate 12 Op.ctor ++ sched.map Op.thread)
    w'.hdrs = 1 ∧ (w'.st.out.map (·.name)).Nodup ∧ (∀ r ∈ w'.st.out, r.complete = true) ∧
    (∀ i < N, kind i = .eval → ∃ r ∈ w'.st.out, r.name = name i) ∧
    (∀ r ∈ w.st.out, r ∈ w'.st.out) ∧
    (∀ r ∈ w'.st.out, r ∈ w.st.out ∨ (r.tid < N ∧ kind r.tid = .eval ∧ name r.tid = r.name)) := by
  have e : wrun name w (Op.newSession kind :: List.replicate 12 Op.ctor ++ sched.map Op.thread) =
      { outExists := true, hdrs := 1, bufExists := true,
        st := run name (initSt kind w.st.out) sched, phase := .running } := by
    rw [wrun_append, ctor_run_eq name w hf hidle kind, wrun_threads name sched _ rfl]
  rw [e] at hdone
  simp only [e]
  have hcomp := rows_complete_of_not_running w hf (by rw [hidle]; intro h; cases h)
  have hinv := run_inv name kind w.st.out sched _ (init_inv name kind w.st.out hf.2.2.2.1 hcomp)
  exact ⟨trivial, final_rows_gen name kind w.st.out N _ hinv
    (run_moved name kind N sched _ hsched (init_moved kind w.st.out N)) hdone⟩

end world

end Panoptica.Agg
