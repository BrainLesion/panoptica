/-
  Helper lemmas for Properties/C11Semantic.lean.
-/
import Panoptica.Proofs.Mirror
import Panoptica.Proofs.SemanticE2E
namespace Panoptica
namespace MirrorSemantic
open Panoptica.Mirror Panoptica.SemanticE2E Panoptica.Transport

/-- semantic input, end to end, with the configuration hypotheses unbundled -/
theorem pipeline_mirror_semantic_core (cfg : Config) (mc : MatcherCfg) (hin : cfg.input = .SEMANTIC)
    (hmat : cfg.matcher = some mc) (hk : mc.kind = .naive false)
    (hmm : mc.metric = .IOU ∨ mc.metric = .DSC) (ht : ∃ q, mc.thr = .exact q)
    (hms : ∀ m ∈ cfg.evalMetrics, m = .IOU ∨ m = .DSC)
    (bits bits₂ : Nat) (pred ref : Arr) (b : Backend)
    (hb : cfg.backend.getD (defaultBackend pred.shape.length) = b)
    (hs : ref.shape = pred.shape)
    (hwp : pred.data.length = shapeSize pred.shape) (hwr : ref.data.length = shapeSize ref.shape)
    (hbndP : ccCount (backendAdj b) pred.fg < 2 ^ 32 - 1)
    (hbndR : ccCount (backendAdj b) ref.fg < 2 ^ 32 - 1)
    (hdet : C03.Determined Score.le mc.metric.decreasing mc.thr
      (scoredCands mc.metric (connectedComponents b pred).1 (connectedComponents b ref).1))
    (out out' : PipeOut) (h : pipeline cfg bits pred ref = .ok out) (h' : pipeline cfg bits₂ ref pred = .ok out') :
    out'.tp = out.tp ∧ out'.nRef = out.nPred ∧ out'.nPred = out.nRef ∧
    ∀ m ∈ cfg.evalMetrics, ∀ vals vals', (m, vals) ∈ out.lists → (m, vals') ∈ out'.lists → vals.Perm vals' := by
  rcases pipeline_semantic_cases cfg bits pred ref hin b hb hs with ⟨h0, hz⟩ | ⟨hP0, hR0, bitsA, hA⟩ <;>
  rcases pipeline_semantic_cases cfg bits₂ ref pred hin b (hs ▸ hb) hs.symm with
    ⟨h0', hz'⟩ | ⟨hR0', hP0', bitsB, hB⟩
  · obtain rfl := Except.ok.inj (hz.symm.trans h)
    obtain rfl := Except.ok.inj (hz'.symm.trans h')
    exact ⟨rfl, rfl, rfl, fun m _ vals vals' => zeroOut_lists_perm cfg _ _ _ _ m vals vals'⟩
  · rw [← labelsOf_cc_length, ← labelsOf_cc_length, List.length_eq_zero_iff, List.length_eq_zero_iff] at h0
    exact absurd h0 (not_or.2 ⟨hP0', hR0'⟩)
  · rw [← labelsOf_cc_length, ← labelsOf_cc_length, List.length_eq_zero_iff, List.length_eq_zero_iff] at h0'
    exact absurd h0'.symm (not_or.2 ⟨hP0, hR0⟩)
  · rw [hA] at h
    rw [hB, hs] at h'
    have eR : (connectedComponents b ref).1 = ⟨pred.shape, (connectedComponents b ref).1.data⟩ := by
      rw [← hs]; rfl
    rw [eR] at hdet
    exact pipeline_mirror_core { cfg with input := .UNMATCHED } mc rfl hmat hk hmm ht hms bitsA bitsB
      pred.shape _ _ (cc_pair_length b pred ref hs hwp hwr)
      (fun x hx => (List.mem_append.1 hx).elim (fun hx => Nat.lt_of_le_of_lt (cc_data_le b pred x hx) hbndP)
        (fun hx => Nat.lt_of_le_of_lt (cc_data_le b ref x hx) hbndR))
      hP0 hR0 hdet out out' h h'

end MirrorSemantic
end Panoptica
