/- helper lemmas for C10 (1): bounding box, raster coordinates of a box, crop -/
import Panoptica.Proofs.Basic
import Panoptica.Proofs.Coord
import Panoptica.Proofs.Pairs
import Panoptica.Proofs.Reach
namespace Panoptica
open Panoptica.Spec

/-! ### bounding box -/

theorem le_foldl_min_iff (l : List Nat) (a b : Nat) : b ≤ l.foldl min a ↔ b ≤ a ∧ ∀ x ∈ l, b ≤ x := by
  induction l generalizing a with
  | nil => simp
  | cons y ys ih => simp only [List.foldl_cons, ih, List.forall_mem_cons, Nat.le_min, and_assoc]

theorem minOf_le_mem (vs : List Nat) (v : Nat) (h : v ∈ vs) : minOf vs ≤ v := by
  obtain _ | ⟨x, xs⟩ := vs
  · cases h
  · exact List.forall_mem_cons.2 ((le_foldl_min_iff xs x _).1 (Nat.le_refl _)) v h

theorem clip_bbox_length (shape : List Nat) (sup : List Coord) (pad : Nat) :
    ((bboxNd shape sup pad).clip shape).length = shape.length := by
  simp [Box.clip, bboxNd]

theorem clip_bbox_getElem (shape : List Nat) (sup : List Coord) (pad : Nat) (i : Nat)
    (hi : i < ((bboxNd shape sup pad).clip shape).length) (hi' : i < shape.length) :
    ((bboxNd shape sup pad).clip shape)[i] =
      (min (minOf (axisVals sup i) - pad) shape[i],
       min (min (maxOf (axisVals sup i) + pad) shape[i] + 1) shape[i]) := by
  simp [Box.clip, bboxNd, List.getD_eq_getElem?_getD, hi']

/-! ### raster coordinates of a box -/

/-- one axis: the indices of `range n` inside `[lo, hi)` are `lo + range (hi - lo)` -/
theorem filter_range_Ico (lo hi n : Nat) (h1 : lo ≤ hi) (h2 : hi ≤ n) :
    (List.range n).filter (fun i => decide (lo ≤ i) && decide (i < hi)) =
      (List.range (hi - lo)).map (fun i => lo + i) := by
  refine sorted_ext _ _ (List.pairwise_lt_range.filter _) ?_ fun x => ?_
  · exact List.pairwise_lt_range.map _ fun a b h => by omega
  · simp only [List.mem_filter, List.mem_range, List.mem_map, Bool.and_eq_true, decide_eq_true_eq]
    exact ⟨fun h => ⟨x - lo, by omega, by omega⟩, fun ⟨j, hj, e⟩ => by omega⟩

/-- filtering a product list by a product predicate filters the factors -/
theorem filter_flatMap_map {α β γ : Type} (mk : α → β → γ) (r : γ → Bool) (p : α → Bool) (q : β → Bool)
    (hr : ∀ i x, r (mk i x) = (p i && q x)) (l : List α) (m : List β) :
    (l.flatMap fun i => m.map (mk i)).filter r = (l.filter p).flatMap fun i => (m.filter q).map (mk i) := by
  induction l with
  | nil => rfl
  | cons i l ih =>
    have : (m.map (mk i)).filter r = if p i then (m.filter q).map (mk i) else [] := by
      rw [List.filter_map]
      cases hp : p i <;> simp [Function.comp_def, hr, hp]
    rw [List.flatMap_cons, List.filter_append, ih, this, List.filter_cons]
    cases p i <;> simp

theorem inBox_cons (lo hi : Nat) (b : Box) (x : Int) (c : Coord) :
    inBox ((lo, hi) :: b) (x :: c) = ((decide ((lo : Int) ≤ x) && decide (x < (hi : Int))) && inBox b c) := by
  simp [inBox]

theorem allCoords_box_aux (shape : List Nat) (b : Box) (hlen : b.length = shape.length)
    (hin : ∀ p ∈ b.zip shape, p.1.1 ≤ p.1.2 ∧ p.1.2 ≤ p.2) :
    (allCoords shape).filter (inBox b) =
      (allCoords (b.map (fun p => p.2 - p.1))).map (translate (b.map (fun p => (p.1 : Int)))) := by
  induction shape generalizing b with
  | nil => cases b <;> simp_all [allCoords, inBox, translate]
  | cons n rest ih =>
    obtain _ | ⟨⟨lo, hi⟩, b⟩ := b
    · simp at hlen
    have hq := hin ((lo, hi), n) (by simp)
    rw [allCoords, filter_flatMap_map (fun (i : Nat) c => Int.ofNat i :: c) _
        (fun i => decide (lo ≤ i) && decide (i < hi)) (inBox b)
        (fun i x => by rw [inBox_cons]; congr 2 <;> simp),
      filter_range_Ico lo hi n hq.1 hq.2, ih b (by simpa using hlen) (fun p hp => hin p (by simp [hp]))]
    simp [allCoords, List.flatMap_map, List.map_flatMap, translate, Function.comp_def]

/-! ### crop -/

theorem foldl_mul_init (s : List Nat) (k : Nat) : s.foldl (· * ·) k = k * s.foldl (· * ·) 1 := by
  induction s generalizing k with
  | nil => simp
  | cons n rest ih =>
    simp only [List.foldl_cons]
    rw [ih (k * n), ih (1 * n)]
    simp [Nat.mul_assoc]

theorem length_flatMap_const {α β : Type} (l : List α) (f : α → List β) (m : Nat)
    (h : ∀ a, (f a).length = m) : (l.flatMap f).length = l.length * m := by
  induction l with
  | nil => simp
  | cons x xs ih => simp [List.flatMap_cons, ih, h, Nat.succ_mul, Nat.add_comm]

theorem allCoords_length (s : List Nat) : (allCoords s).length = shapeSize s := by
  induction s with
  | nil => simp [allCoords, shapeSize]
  | cons n rest ih =>
    simp only [allCoords, shapeSize, List.foldl_cons] at ih ⊢
    rw [length_flatMap_const _ _ (allCoords rest).length (by intro a; simp), foldl_mul_init, ih]
    simp

theorem clip_eq_self (b : Box) (shape : List Nat)
    (hin : ∀ p ∈ b.zip shape, p.1.1 ≤ p.1.2 ∧ p.1.2 ≤ p.2) (hlen : b.length = shape.length) :
    b.clip shape = b := by
  induction b generalizing shape with
  | nil => simp [Box.clip]
  | cons q b' ih =>
    cases shape with
    | nil => simp at hlen
    | cons n rest =>
      have hq := hin (q, n) (by simp)
      have ih' := ih rest (fun p hp => hin p (by simp [hp])) (by simpa using hlen)
      simp only [Box.clip] at ih' ⊢
      simp only [List.zip_cons_cons, List.map_cons, ih']
      simp only at hq
      rw [Nat.min_eq_left (by omega), Nat.min_eq_left hq.2]

theorem zip_map_fst_snd {α β : Type} (l : List (α × β)) : (l.map (·.1)).zip (l.map (·.2)) = l := by
  induction l with
  | nil => rfl
  | cons x xs ih => simp [ih]

theorem crop_fg_aux (a : Arr) (b : Box) (hdata : a.data.length = shapeSize a.shape)
    (hlen : b.length = a.shape.length)
    (hin : ∀ p ∈ b.zip a.shape, p.1.1 ≤ p.1.2 ∧ p.1.2 ≤ p.2)
    (hfg : ∀ v ∈ a.fg, inBox b v.1 = true) :
    (a.crop b).fg.map (fun v => (translate (b.map (fun p => (p.1 : Int))) v.1, v.2)) = a.fg := by
  have hfst : a.voxels.map (·.1) = allCoords a.shape := by
    unfold Arr.voxels
    rw [List.map_fst_zip]
    rw [allCoords_length, hdata]; exact Nat.le_refl _
  have hVB : ((a.voxels.filter (fun v => inBox b v.1)).map (·.1)) =
      (allCoords (b.map (fun p => p.2 - p.1))).map (translate (b.map (fun p => (p.1 : Int)))) := by
    rw [← allCoords_box_aux a.shape b hlen hin, ← hfst, List.filter_map]
    rfl
  simp only [Arr.fg, Arr.crop, clip_eq_self b a.shape hin hlen] at hfg ⊢
  generalize a.voxels = V at hVB hfg ⊢
  simp only [Arr.voxels]
  have hmf : ∀ (F : Coord × Lab → Coord × Lab) (hF : ∀ v, (F v).2 = v.2) (L : List (Coord × Lab)),
      (L.filter (fun v => v.2 != 0)).map F = (L.map F).filter (fun v => v.2 != 0) := by
    intro F hF L
    rw [List.filter_map]
    congr 1
    apply List.filter_congr
    intro v _
    simp [Function.comp, hF]
  have : (fun v : Coord × Lab => (translate (List.map (fun p => (p.1 : Int)) b) v.1, v.2)) =
      Prod.map (translate (List.map (fun p => (p.1 : Int)) b)) id := by
    funext v; rfl
  rw [this, hmf (Prod.map (translate (List.map (fun p => (p.1 : Int)) b)) id) (fun _ => rfl), ← List.zip_map_left, ← hVB, zip_map_fst_snd, List.filter_filter]
  apply List.filter_congr
  intro v hv
  by_cases h0 : v.2 = 0
  · simp [h0]
  · have := hfg v (by simp [hv, h0])
    simp [this]

end Panoptica
