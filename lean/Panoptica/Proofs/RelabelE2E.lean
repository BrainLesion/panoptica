/-
  C09, renaming the labels: the instance `φ = relPair σ τ`, `g = relabelCand σ τ` of Proofs/Transport.lean, for the
  two threshold matchers; end to end the argument does not depend on the matcher once the label map of the renamed
  pair is known to be the renamed label map (`pipeline_rename_of_lmap`).
-/
import Panoptica.Proofs.Transport
namespace Panoptica
namespace RelabelE2E
open Panoptica.C09 Panoptica.Transport

/-- `f` is injective on the values of `a` -/
def InjOn (f : Lab → Lab) (a : Flat) : Prop := ∀ x ∈ a, ∀ y ∈ a, f x = f y → x = y

/-- relabel an entry `(pred, ref)` of a label map -/
def relPair (σ τ : Lab → Lab) (e : Lab × Lab) : Lab × Lab := (σ e.1, τ e.2)

/-- relabel a candidate pair `(ref, pred)` of the candidate discovery -/
def relOv (σ τ : Lab → Lab) (x : Lab × Lab) : Lab × Lab := (τ x.1, σ x.2)

/-! ### candidates of a renamed pair -/

theorem overlapPairs_rename (pred ref : Flat) (σ τ : Lab → Lab)
    (hσ : Renaming σ pred) (hτ : Renaming τ ref)
    (hb : ∀ x ∈ pred ++ ref, x < 2 ^ 32 - 1) (hb' : ∀ x ∈ pred.map σ ++ ref.map τ, x < 2 ^ 32 - 1) :
    (overlapPairs (pred.map σ) (ref.map τ) (labelsOf (ref.map τ))).Perm
      ((overlapPairs pred ref (labelsOf ref)).map (relOv σ τ)) := by
  refine overlapPairs_perm_map pred ref _ _ (relOv σ τ) hb hb' ?_ ?_ ?_
  · rintro ⟨a, b⟩
    rw [List.zip_map, List.mem_map]
    constructor
    · rintro ⟨⟨p, r⟩, hz, h⟩
      cases h
      exact ⟨(r, p), hz, rfl⟩
    · rintro ⟨⟨r, p⟩, hx, h⟩
      cases h
      exact ⟨(p, r), hx, rfl⟩
  · intro x hx
    have hm := List.of_mem_zip hx
    exact and_congr ⟨fun h h0 => h (by rw [relOv, h0]; exact hτ.zero), hτ.nonzero _ hm.2⟩
      ⟨fun h h0 => h (by rw [relOv, h0]; exact hσ.zero), hσ.nonzero _ hm.1⟩
  · intro x y hx hy h
    have mx := List.of_mem_zip hx
    have my := List.of_mem_zip hy
    exact Prod.ext (hτ.inj _ mx.2 _ my.2 (congrArg Prod.fst h)) (hσ.inj _ mx.1 _ my.1 (congrArg Prod.snd h))
theorem scoredCands_rename (m : Metric) (s : List Nat) (pred ref : Flat) (σ τ : Lab → Lab)
    (hσ : Renaming σ pred) (hτ : Renaming τ ref)
    (hb : ∀ x ∈ pred ++ ref, x < 2 ^ 32 - 1) (hb' : ∀ x ∈ pred.map σ ++ ref.map τ, x < 2 ^ 32 - 1) :
    (scoredCands m ⟨s, pred.map σ⟩ ⟨s, ref.map τ⟩).Perm
      ((scoredCands m ⟨s, pred⟩ ⟨s, ref⟩).map (relabelCand σ τ)) := by
  refine scoredCands_perm_map m ⟨s, pred⟩ ⟨s, ref⟩ ⟨s, pred.map σ⟩ ⟨s, ref.map τ⟩ (relOv σ τ)
    (overlapPairs_rename pred ref σ τ hσ hτ hb hb') ?_
  rintro ⟨r, p⟩ hx
  have hm := List.of_mem_zip ((mem_overlapPairs pred ref
    (fun x hx => lt32_of_lt x (bounds_left hb x hx)) (bounds_right hb) r p).1 hx).2.2
  exact Values.metricOn_congr_sel m s (selRef_relabel τ ref hτ.inj r hm.2)
    (selPred_relabel σ pred hσ.inj [p] fun q hq => by rw [List.mem_singleton.1 hq]; exact hm.1)

/-! ### the label map of a renamed pair, threshold matchers -/

section
variable {S : Type} {cs : List (Cand S)} {σ τ : Lab → Lab}

theorem CandMap.relabel (hσ : ∀ a ∈ cs, ∀ b ∈ cs, σ a.pred = σ b.pred → a.pred = b.pred)
    (hτ : ∀ a ∈ cs, ∀ b ∈ cs, τ a.ref = τ b.ref → a.ref = b.ref) :
    CandMap cs (relabelCand σ τ) (relPair σ τ) :=
  ⟨fun _ _ => rfl, fun _ _ => rfl, fun a ha b hb h =>
    Prod.ext (hσ a ha b hb (congrArg Prod.fst h)) (hτ a ha b hb (congrArg Prod.snd h))⟩

theorem competes_relabel (hσ : ∀ a ∈ cs, ∀ b ∈ cs, σ a.pred = σ b.pred → a.pred = b.pred)
    (hτ : ∀ a ∈ cs, ∀ b ∈ cs, τ a.ref = τ b.ref → a.ref = b.ref) :
    ∀ a ∈ cs, ∀ b ∈ cs, C03.competes (relabelCand σ τ a) (relabelCand σ τ b) = C03.competes a b := by
  intro a ha b hb
  rw [Bool.eq_iff_iff]
  simp only [C03.competes, relabelCand, Bool.or_eq_true, beq_iff_eq]
  exact or_congr ⟨hσ a ha b hb, congrArg σ⟩ ⟨hτ a ha b hb, congrArg τ⟩

end

theorem runMatcher_rename (mc : MatcherCfg) (hk : mc.kind = .naive false)
    (hm : mc.metric = .IOU ∨ mc.metric = .DSC) (ht : ∃ q, mc.thr = .exact q)
    (s : List Nat) (pred ref : Flat) (σ τ : Lab → Lab)
    (hσ : Renaming σ pred) (hτ : Renaming τ ref)
    (hlen : pred.length = ref.length)
    (hb : ∀ x ∈ pred ++ ref, x < 2 ^ 32 - 1) (hb' : ∀ x ∈ pred.map σ ++ ref.map τ, x < 2 ^ 32 - 1)
    (hdet : C03.Determined Score.le mc.metric.decreasing mc.thr (scoredCands mc.metric ⟨s, pred⟩ ⟨s, ref⟩))
    (lm lm' : LMap) (h : runMatcher mc ⟨s, pred⟩ ⟨s, ref⟩ = .ok lm)
    (h' : runMatcher mc ⟨s, pred.map σ⟩ ⟨s, ref.map τ⟩ = .ok lm') :
    ∀ e, e ∈ lm.map (relPair σ τ) ↔ e ∈ lm' := by
  rw [runMatcher_naive mc false hk] at h h'
  cases h
  cases h'
  have hmem := cand_mem mc.metric s pred ref hlen hb
  have hσc := fun a ha b hb2 => hσ.inj _ (hmem a ha).1 _ (hmem b hb2).1
  have hτc := fun a ha b hb2 => hτ.inj _ (hmem a ha).2 _ (hmem b hb2).2
  exact naive_transport (scoredCands_exact _ hm _ _) ht (CandMap.relabel hσc hτc) (competes_relabel hσc hτc)
    (scoredCands_rename mc.metric s pred ref σ τ hσ hτ hb hb') hdet

theorem runMatcher_rename_m2o (mc : MatcherCfg) (hk : mc.kind = .naive true)
    (hm : mc.metric = .IOU ∨ mc.metric = .DSC) (ht : ∃ q, mc.thr = .exact q)
    (s : List Nat) (pred ref : Flat) (σ τ : Lab → Lab)
    (hσ : Renaming σ pred) (hτ : Renaming τ ref)
    (hlen : pred.length = ref.length)
    (hb : ∀ x ∈ pred ++ ref, x < 2 ^ 32 - 1) (hb' : ∀ x ∈ pred.map σ ++ ref.map τ, x < 2 ^ 32 - 1)
    (hdet : C03.DeterminedM2O Score.le mc.metric.decreasing mc.thr (scoredCands mc.metric ⟨s, pred⟩ ⟨s, ref⟩))
    (lm lm' : LMap) (h : runMatcher mc ⟨s, pred⟩ ⟨s, ref⟩ = .ok lm)
    (h' : runMatcher mc ⟨s, pred.map σ⟩ ⟨s, ref.map τ⟩ = .ok lm') :
    ∀ e, e ∈ lm.map (relPair σ τ) ↔ e ∈ lm' := by
  rw [runMatcher_naive mc true hk] at h h'
  cases h
  cases h'
  have hmem := cand_mem mc.metric s pred ref hlen hb
  have hσc := fun a ha b hb2 => hσ.inj _ (hmem a ha).1 _ (hmem b hb2).1
  have hτc := fun a ha b hb2 => hτ.inj _ (hmem a ha).2 _ (hmem b hb2).2
  exact naive_transport_m2o (scoredCands_exact _ hm _ _) ht (CandMap.relabel hσc hτc)
    (fun a ha b hb2 => ⟨hσc a ha b hb2, congrArg σ⟩)
    (scoredCands_rename mc.metric s pred ref σ τ hσ hτ hb hb') hdet

/-! ### instance counts -/

theorem labelsOf_rename_perm (f : Lab → Lab) (a : Flat) (h : Renaming f a) :
    (labelsOf (a.map f)).Perm ((labelsOf a).map f) := by
  apply labelsOf_map_perm
  · intro x hx
    exact ⟨fun h0 => Classical.byContradiction fun hx0 => h.nonzero x hx hx0 h0, fun h0 => by rw [h0]; exact h.zero⟩
  · intro x hx y hy
    exact h.inj x ((mem_labelsOf a x).1 hx).1 y ((mem_labelsOf a y).1 hy).1

theorem labelsOf_rename_length (f : Lab → Lab) (a : Flat) (h : Renaming f a) :
    (labelsOf (a.map f)).length = (labelsOf a).length := by
  rw [(labelsOf_rename_perm f a h).length_eq, List.length_map]

theorem mem_map_relPair (σ τ : Lab → Lab) (pred : Flat) (hσ : InjOn σ pred) (lm : LMap)
    (hkeys : ∀ e ∈ lm, e.1 ∈ pred) (x : Lab) (hx : x ∈ pred) (r' : Lab) :
    (σ x, r') ∈ lm.map (relPair σ τ) ↔ ∃ r, (x, r) ∈ lm ∧ τ r = r' := by
  rw [List.mem_map]
  constructor
  · rintro ⟨e, he, heq⟩
    simp only [relPair, Prod.mk.injEq] at heq
    have : e.1 = x := hσ e.1 (hkeys e he) x hx heq.1
    refine ⟨e.2, ?_, heq.2⟩
    rw [← this]; exact he
  · rintro ⟨r, h, rfl⟩
    exact ⟨(x, r), h, rfl⟩

/-- the number of instances of the relabelled prediction is unchanged: the matched references correspond by `τ`, the
    unmatched predictions by `σ` (`labelsOf_map_rf_perm`) -/
theorem nPred_rename (pred ref : Flat) (σ τ : Lab → Lab)
    (hσ : Renaming σ pred) (hτ : InjOn τ ref) (lm lm' : LMap)
    (hrel : ∀ e, e ∈ lm.map (relPair σ τ) ↔ e ∈ lm')
    (hg : Values.Good lm pred ref)
    (hg' : Values.Good lm' (pred.map σ) (ref.map τ)) :
    (labelsOf ((pred.map σ).map (Values.rf lm' (pred.map σ) (ref.map τ)))).length =
      (labelsOf (pred.map (Values.rf lm pred ref))).length := by
  have hkeys : ∀ e ∈ lm, e.1 ∈ pred := fun e he => ((mem_labelsOf pred _).1 (hg.keys e he)).1
  have hvals : ∀ e ∈ lm, e.2 ∈ ref := fun e he => ((mem_labelsOf ref _).1 (hg.vals e he)).1
  have hmiss : ((labelsOf (pred.map σ)).filter (fun p => !lm'.containsPred p)).Perm
      (((labelsOf pred).filter (fun p => !lm.containsPred p)).map σ) := by
    have hf : ∀ x ∈ labelsOf pred, (!lm'.containsPred (σ x)) = !lm.containsPred x := fun x hx => by
      have hx := ((mem_labelsOf pred x).1 hx).1
      rw [Bool.not_inj_iff, Bool.eq_iff_iff, LMap.containsPred_iff, LMap.containsPred_iff]
      constructor
      · rintro ⟨r', he'⟩
        obtain ⟨r, hr, _⟩ := (mem_map_relPair σ τ pred hσ.inj lm hkeys x hx r').1 ((hrel _).2 he')
        exact ⟨r, hr⟩
      · rintro ⟨r, he⟩
        exact ⟨τ r, (hrel _).1 (List.mem_map_of_mem (f := relPair σ τ) he)⟩
    refine ((labelsOf_rename_perm σ pred hσ).filter _).trans (List.Perm.of_eq ?_)
    rw [List.filter_map]
    exact congrArg _ (List.filter_congr hf)
  rw [(labelsOf_map_rf_perm hg').length_eq, (labelsOf_map_rf_perm hg).length_eq, List.length_append,
    List.length_append, List.length_map, List.length_map, hmiss.length_eq, List.length_map,
    (matchedRefs_perm (relPair σ τ) τ hg hg' hrel (fun _ _ => rfl)
      (fun e he e' he' => hτ _ (hvals e he) _ (hvals e' he'))).length_eq, List.length_map]

/-! ### end to end, whatever the matcher -/

/-- the metric of a matched group is unchanged: the predictions assigned to `τ r` after the renaming are the renamed
    predictions assigned to `r` -/
theorem metricOn_rename_lm (m : Metric) (s : List Nat) {pred ref : Flat} {σ τ : Lab → Lab}
    (hσ : InjOn σ pred) (hτ : InjOn τ ref) {lm lm' : LMap} (hG : Values.Good lm pred ref)
    (hrel : ∀ e, e ∈ lm.map (relPair σ τ) ↔ e ∈ lm') (e : Lab × Lab) (he : e ∈ lm) :
    metricOn m ⟨s, pred.map σ⟩ ⟨s, ref.map τ⟩ (τ e.2) (lm'.predsOf (τ e.2)) =
      metricOn m ⟨s, pred⟩ ⟨s, ref⟩ e.2 (lm.predsOf e.2) := by
  have hkeys : ∀ e ∈ lm, e.1 ∈ pred := fun e he => ((mem_labelsOf pred _).1 (hG.keys e he)).1
  have hvals : ∀ e ∈ lm, e.2 ∈ ref := fun e he => ((mem_labelsOf ref _).1 (hG.vals e he)).1
  refine Values.metricOn_congr_sel m s (selRef_relabel τ ref hτ e.2 (hvals e he)) ?_
  simp only [selPred, List.map_map]
  apply List.map_congr_left
  intro x hx
  rw [Function.comp_apply, Bool.eq_iff_iff, List.contains_iff_mem, List.contains_iff_mem, Values.mem_predsOf,
    Values.mem_predsOf, ← hrel, mem_map_relPair σ τ pred hσ lm hkeys x hx]
  constructor
  · rintro ⟨r, hr, h⟩
    rw [← hτ r (hvals _ hr) e.2 (hvals e he) h]; exact hr
  · exact fun h => ⟨e.2, h, rfl⟩

theorem pipeline_rename_of_lmap (cfg : Config) (mc : MatcherCfg)
    (hin : cfg.input = .UNMATCHED) (hmat : cfg.matcher = some mc)
    (bits bits' : Nat) (s : List Nat) (pred ref : Flat) (σ τ : Lab → Lab)
    (hσ : Renaming σ pred) (hτ : Renaming τ ref)
    (hlen : pred.length = ref.length)
    (hb : ∀ x ∈ pred ++ ref, x < 2 ^ 32 - 1) (hb' : ∀ x ∈ pred.map σ ++ ref.map τ, x < 2 ^ 32 - 1)
    (hp : labelsOf pred ≠ []) (hr : labelsOf ref ≠ [])
    (hrel : ∀ lm lm', runMatcher mc ⟨s, pred⟩ ⟨s, ref⟩ = .ok lm →
      runMatcher mc ⟨s, pred.map σ⟩ ⟨s, ref.map τ⟩ = .ok lm' → ∀ e, e ∈ lm.map (relPair σ τ) ↔ e ∈ lm')
    (out out' : PipeOut) (h : pipeline cfg bits ⟨s, pred⟩ ⟨s, ref⟩ = .ok out)
    (h' : pipeline cfg bits' ⟨s, pred.map σ⟩ ⟨s, ref.map τ⟩ = .ok out') :
    out'.tp = out.tp ∧ out'.nRef = out.nRef ∧ out'.nPred = out.nPred ∧
    ∀ m ∈ cfg.evalMetrics, ∀ vals vals', (m, vals) ∈ out.lists → (m, vals') ∈ out'.lists → vals.Perm vals' := by
  have hlp := labelsOf_rename_length σ pred hσ
  have hlr := labelsOf_rename_length τ ref hτ
  have hp' : labelsOf (pred.map σ) ≠ [] := fun h0 =>
    hp (List.eq_nil_of_length_eq_zero (by rw [← hlp, h0]; rfl))
  have hr' : labelsOf (ref.map τ) ≠ [] := fun h0 =>
    hr (List.eq_nil_of_length_eq_zero (by rw [← hlr, h0]; rfl))
  have hlen' : (pred.map σ).length = (ref.map τ).length := by
    rw [List.length_map, List.length_map]; exact hlen
  obtain ⟨lm, hrun, hG, rfl⟩ := Values.pipeline_eval cfg bits s pred ref mc hin hmat hlen hb hp hr out h
  obtain ⟨lm', hrun', hG', rfl⟩ :=
    Values.pipeline_eval cfg bits' s (pred.map σ) (ref.map τ) mc hin hmat hlen' hb' hp' hr' out' h'
  have hrel := hrel lm lm' hrun hrun'
  have hvals : ∀ e ∈ lm, e.2 ∈ ref := fun e he => ((mem_labelsOf ref _).1 (hG.vals e he)).1
  obtain ⟨htp, hl⟩ := evalMatched_perm Score.le cfg.evalMetrics cfg.decision
    (dictsOf_perm cfg.evalMetrics s (relPair σ τ) τ hG hG' hrel (fun _ _ => rfl)
      (fun e he e' he' => hτ.inj _ (hvals e he) _ (hvals e' he'))
      (fun e he m _ => metricOn_rename_lm m s hσ.inj hτ.inj hG hrel e he))
  exact ⟨htp, hlr, nPred_rename pred ref σ τ hσ hτ.inj lm lm' hrel hG hG', hl⟩

end RelabelE2E
end Panoptica
