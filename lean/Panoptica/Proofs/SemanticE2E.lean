/- helper lemmas for Properties/C10Semantic.lean (C10 for semantic input: the component labelling is
   equivariant under adjacency-preserving injective maps, and the pipeline composes with it) -/
import Panoptica.Properties.C05
import Panoptica.Properties.C10Pipeline
import Panoptica.Properties.C09Pipeline
import Panoptica.Proofs.Geometry
namespace Panoptica
namespace SemanticE2E
open Panoptica.Spec Panoptica.Mirror Panoptica.C10

/-! ### Level 1: reachability and the component numbering under a map of the vertex set -/

section generic
set_option linter.unusedSectionVars false
variable {α β : Type} [BEq α] [LawfulBEq α] [BEq β] [LawfulBEq β]

/-- `Reach` depends on `V` only through membership -/
theorem reach_of_subset {adj : α → α → Bool} {V V' : List α} (hsub : ∀ x ∈ V, x ∈ V') {a b : α}
    (h : Reach adj V a b) : Reach adj V' a b := by
  induction h with
  | refl ha => exact Reach.refl _ (hsub _ ha)
  | step _ hc hadj ih => exact Reach.step ih (hsub _ hc) hadj

theorem reach_perm {adj : α → α → Bool} {V V' : List α} (hp : V'.Perm V) (a b : α) :
    Reach adj V' a b ↔ Reach adj V a b :=
  ⟨reach_of_subset (fun _ h => hp.mem_iff.1 h), reach_of_subset (fun _ h => hp.mem_iff.2 h)⟩

/-- reachability in a rearranged image of `V` is reachability in `V` -/
theorem reach_transport (adj : α → α → Bool) (adj' : β → β → Bool) (g : α → β) (V : List α) (V' : List β)
    (hinj : ∀ a b, a ∈ V → b ∈ V → g a = g b → a = b)
    (hadj : ∀ a b, a ∈ V → b ∈ V → adj' (g a) (g b) = adj a b)
    (hperm : V'.Perm (V.map g)) (a b : α) (ha : a ∈ V) (hb : b ∈ V) :
    Reach adj' V' (g a) (g b) ↔ Reach adj V a b :=
  (reach_perm hperm _ _).trans (C10.reach_map_iff adj adj' g V hinj hadj a b ha hb)

theorem nodup_image (g : α → β) (V : List α) (V' : List β) (hnd : V.Nodup)
    (hinj : ∀ a b, a ∈ V → b ∈ V → g a = g b → a = b) (hperm : V'.Perm (V.map g)) : V'.Nodup :=
  hperm.nodup_iff.2 (nodup_map_on g V (fun x hx y hy h => hinj x y hx hy h) hnd)

/-- the two labellings induce the same partition -/
theorem cc_partition_core (adj : α → α → Bool) (adj' : β → β → Bool) (g : α → β) (V : List α) (V' : List β)
    (hsymm : ∀ a b, adj a b = adj b a) (hsymm' : ∀ a b, adj' a b = adj' b a) (hnd : V.Nodup)
    (hinj : ∀ a b, a ∈ V → b ∈ V → g a = g b → a = b)
    (hadj : ∀ a b, a ∈ V → b ∈ V → adj' (g a) (g b) = adj a b)
    (hperm : V'.Perm (V.map g)) (a b : α) (n m n' m' : Nat)
    (ha : (a, n) ∈ ccLabel adj V) (hb : (b, m) ∈ ccLabel adj V)
    (ha' : (g a, n') ∈ ccLabel adj' V') (hb' : (g b, m') ∈ ccLabel adj' V') :
    n = m ↔ n' = m' := by
  have hnd' := nodup_image g V V' hnd hinj hperm
  have haV : a ∈ V := (C05.cc_total adj hsymm V hnd).2.2 _ ha
  have hbV : b ∈ V := (C05.cc_total adj hsymm V hnd).2.2 _ hb
  rw [C05.cc_same_iff adj hsymm V hnd a b n m ha hb,
    C05.cc_same_iff adj' hsymm' V' hnd' (g a) (g b) n' m' ha' hb']
  exact (reach_transport adj adj' g V V' hinj hadj hperm a b haV hbV).symm

/-- label of `v` in a numbering table (0 when absent) -/
def lab (tbl : List (α × Nat)) (v : α) : Nat :=
  match tbl.find? (fun e => e.1 == v) with
  | some e => e.2
  | none => 0

theorem lab_eq {tbl : List (α × Nat)} (hnd : (tbl.map (·.1)).Nodup) {v : α} {n : Nat}
    (h : (v, n) ∈ tbl) : lab tbl v = n := by
  unfold lab
  cases hf : tbl.find? (fun e => e.1 == v) with
  | none =>
    have := List.find?_eq_none.1 hf (v, n) h
    simp at this
  | some e =>
    have h1 : e.1 = v := eq_of_beq (List.find?_some (p := fun e : α × Nat => e.1 == v) hf)
    have h2 : e ∈ tbl := List.mem_of_find?_eq_some hf
    have h3 : (v, e.2) ∈ tbl := by rw [← h1]; exact h2
    exact nodup_keys_unique hnd h3 h

/-- the renaming of component numbers induced by `g`: the number that the image of a representative
    of component `k` receives (identity outside the numbers in use) -/
def renum (tbl : List (α × Nat)) (tbl' : List (β × Nat)) (g : α → β) (k : Nat) : Nat :=
  match tbl.find? (fun e => e.2 == k) with
  | some e => lab tbl' (g e.1)
  | none => k

structure RenumSpec (adj : α → α → Bool) (adj' : β → β → Bool) (g : α → β) (V : List α) (V' : List β)
    (ρ : Nat → Nat) : Prop where
  maps : ∀ v k, (v, k) ∈ ccLabel adj V → (g v, ρ k) ∈ ccLabel adj' V'
  zero : ∀ k, ρ k = 0 ↔ k = 0
  range : ∀ k, 1 ≤ k → k ≤ ccCount adj V → 1 ≤ ρ k ∧ ρ k ≤ ccCount adj V
  inj : ∀ k l, 1 ≤ k → k ≤ ccCount adj V → 1 ≤ l → l ≤ ccCount adj V → ρ k = ρ l → k = l
  surj : ∀ k', 1 ≤ k' → k' ≤ ccCount adj V → ∃ k, 1 ≤ k ∧ k ≤ ccCount adj V ∧ ρ k = k'
  count : ccCount adj' V' = ccCount adj V

theorem renum_spec (adj : α → α → Bool) (adj' : β → β → Bool) (g : α → β) (V : List α) (V' : List β)
    (hsymm : ∀ a b, adj a b = adj b a) (hsymm' : ∀ a b, adj' a b = adj' b a) (hnd : V.Nodup)
    (hinj : ∀ a b, a ∈ V → b ∈ V → g a = g b → a = b)
    (hadj : ∀ a b, a ∈ V → b ∈ V → adj' (g a) (g b) = adj a b)
    (hperm : V'.Perm (V.map g)) :
    RenumSpec adj adj' g V V' (renum (ccLabel adj V) (ccLabel adj' V') g) := by
  have hnd' := nodup_image g V V' hnd hinj hperm
  obtain ⟨htot, hkeys, hsub⟩ := C05.cc_total adj hsymm V hnd
  obtain ⟨htot', hkeys', hsub'⟩ := C05.cc_total adj' hsymm' V' hnd'
  have hpart := cc_partition_core adj adj' g V V' hsymm hsymm' hnd hinj hadj hperm
  have himg : ∀ v ∈ V, g v ∈ V' := fun v hv => hperm.mem_iff.2 (List.mem_map_of_mem hv)
  -- the main fact
  have maps : ∀ v k, (v, k) ∈ ccLabel adj V →
      (g v, renum (ccLabel adj V) (ccLabel adj' V') g k) ∈ ccLabel adj' V' := by
    intro v k hv
    unfold renum
    cases hf : (ccLabel adj V).find? (fun e => e.2 == k) with
    | none =>
      have := List.find?_eq_none.1 hf (v, k) hv
      simp at this
    | some e =>
      have h1 : e.2 = k := eq_of_beq (List.find?_some (p := fun e : α × Nat => e.2 == k) hf)
      have h2 : (e.1, k) ∈ ccLabel adj V := by rw [← h1]; exact List.mem_of_find?_eq_some hf
      obtain ⟨n', hn'⟩ := htot' (g e.1) (himg _ (hsub (e.1, k) h2))
      obtain ⟨m', hm'⟩ := htot' (g v) (himg _ (hsub (v, k) hv))
      have : n' = m' := (hpart e.1 v k k n' m' h2 hv hn' hm').1 rfl
      show (g v, lab (ccLabel adj' V') (g e.1)) ∈ _
      rw [lab_eq hkeys' hn', this]
      exact hm'
  have hrange' : ∀ k, 1 ≤ k → k ≤ ccCount adj V →
      1 ≤ renum (ccLabel adj V) (ccLabel adj' V') g k ∧
        renum (ccLabel adj V) (ccLabel adj' V') g k ≤ ccCount adj' V' := by
    intro k h1 h2
    obtain ⟨v, hv⟩ := (C05.cc_range adj hsymm V hnd k).2 ⟨h1, h2⟩
    exact (C05.cc_range adj' hsymm' V' hnd' _).1 ⟨_, maps v k hv⟩
  have hinj' : ∀ k l, 1 ≤ k → k ≤ ccCount adj V → 1 ≤ l → l ≤ ccCount adj V →
      renum (ccLabel adj V) (ccLabel adj' V') g k = renum (ccLabel adj V) (ccLabel adj' V') g l →
        k = l := by
    intro k l hk1 hk2 hl1 hl2 h
    obtain ⟨v, hv⟩ := (C05.cc_range adj hsymm V hnd k).2 ⟨hk1, hk2⟩
    obtain ⟨w, hw⟩ := (C05.cc_range adj hsymm V hnd l).2 ⟨hl1, hl2⟩
    exact (hpart v w k l _ _ hv hw (maps v k hv) (maps w l hw)).2 h
  have hsurj' : ∀ k', 1 ≤ k' → k' ≤ ccCount adj' V' →
      ∃ k, 1 ≤ k ∧ k ≤ ccCount adj V ∧ renum (ccLabel adj V) (ccLabel adj' V') g k = k' := by
    intro k' h1 h2
    obtain ⟨v', hv'⟩ := (C05.cc_range adj' hsymm' V' hnd' k').2 ⟨h1, h2⟩
    obtain ⟨v, hv, rfl⟩ := List.mem_map.1 (hperm.mem_iff.1 (hsub' _ hv'))
    obtain ⟨k, hk⟩ := htot v hv
    obtain ⟨hk1, hk2⟩ := (C05.cc_range adj hsymm V hnd k).1 ⟨v, hk⟩
    exact ⟨k, hk1, hk2, nodup_keys_unique hkeys' (maps v k hk) hv'⟩
  have hcount : ccCount adj' V' = ccCount adj V := by
    have hp : ((List.range' 1 (ccCount adj V)).map (renum (ccLabel adj V) (ccLabel adj' V') g)).Perm
        (List.range' 1 (ccCount adj' V')) := by
      apply (List.perm_ext_iff_of_nodup ?_ List.nodup_range').2
      · intro x
        rw [List.mem_map, List.mem_range'_1]
        constructor
        · rintro ⟨k, hk, rfl⟩
          rw [List.mem_range'_1] at hk
          have := hrange' k hk.1 (by omega)
          omega
        · intro hx
          obtain ⟨k, hk1, hk2, hk3⟩ := hsurj' x hx.1 (by omega)
          exact ⟨k, List.mem_range'_1.2 ⟨hk1, by omega⟩, hk3⟩
      · apply nodup_map_on _ _ _ List.nodup_range'
        intro x hx y hy h
        rw [List.mem_range'_1] at hx hy
        exact hinj' x y hx.1 (by omega) hy.1 (by omega) h
    have := hp.length_eq
    rw [List.length_map, List.length_range', List.length_range'] at this
    exact this.symm
  refine ⟨maps, ?_, ?_, hinj', ?_, hcount⟩
  · intro k
    unfold renum
    cases hf : (ccLabel adj V).find? (fun e => e.2 == k) with
    | none => exact Iff.rfl
    | some e =>
      have h1 : e.2 = k := eq_of_beq (List.find?_some (p := fun e : α × Nat => e.2 == k) hf)
      have h2 : (e.1, k) ∈ ccLabel adj V := by rw [← h1]; exact List.mem_of_find?_eq_some hf
      obtain ⟨hk1, hk2⟩ := (C05.cc_range adj hsymm V hnd k).1 ⟨_, h2⟩
      have := (hrange' k hk1 hk2).1
      unfold renum at this
      rw [hf] at this
      show lab (ccLabel adj' V') (g e.1) = 0 ↔ k = 0
      simp only at this
      omega
  · intro k h1 h2
    rw [← hcount]
    exact hrange' k h1 h2
  · intro k' h1 h2
    exact hsurj' k' h1 (by rw [hcount]; exact h2)

end generic

/-! ### Level 2: arrays -/

theorem allCoords_nodup : ∀ s : List Nat, (allCoords s).Nodup
  | [] => by simp [allCoords]
  | n :: rest => by
    have ih := allCoords_nodup rest
    unfold allCoords
    unfold List.Nodup
    rw [List.pairwise_flatMap]
    constructor
    · intro i _
      exact nodup_map_on _ _ (fun x _ y _ h => (List.cons.inj h).2) ih
    · refine List.Pairwise.imp ?_ (List.nodup_range (n := n))
      intro i j hij x hx y hy hxy
      obtain ⟨c, _, rfl⟩ := List.mem_map.1 hx
      obtain ⟨d, _, rfl⟩ := List.mem_map.1 hy
      have := (List.cons.inj hxy).1
      exact hij (Int.ofNat.inj this)

theorem allCoords_len : ∀ (s : List Nat) (c : Coord), c ∈ allCoords s → c.length = s.length
  | [], c, h => by
    simp only [allCoords, List.mem_singleton] at h
    subst h
    rfl
  | n :: rest, c, h => by
    unfold allCoords at h
    obtain ⟨i, _, hc⟩ := List.mem_flatMap.1 h
    obtain ⟨d, hd, rfl⟩ := List.mem_map.1 hc
    rw [List.length_cons, List.length_cons, allCoords_len rest d hd]

theorem keys_zip_nodup {κ ν : Type} : ∀ (l : List κ) (d : List ν), l.Nodup → ((l.zip d).map (·.1)).Nodup
  | [], _, _ => by simp
  | _ :: _, [], _ => by simp
  | k :: l, x :: d, h => by
    rw [List.nodup_cons] at h
    rw [List.zip_cons_cons, List.map_cons, List.nodup_cons]
    refine ⟨?_, keys_zip_nodup l d h.2⟩
    intro hk
    obtain ⟨e, he, rfl⟩ := List.mem_map.1 hk
    exact h.1 (List.of_mem_zip (a := e.1) (b := e.2) he).1

theorem voxels_keys_nodup (a : Arr) : (a.voxels.map (·.1)).Nodup :=
  keys_zip_nodup _ _ (allCoords_nodup a.shape)

theorem fg_keys_nodup (a : Arr) : (a.fg.map (·.1)).Nodup :=
  (voxels_keys_nodup a).sublist (List.filter_sublist.map _)

theorem nodup_of_keys {κ ν : Type} : ∀ (l : List (κ × ν)), (l.map (·.1)).Nodup → l.Nodup
  | [], _ => List.nodup_nil
  | e :: l, h => by
    rw [List.map_cons, List.nodup_cons] at h
    rw [List.nodup_cons]
    exact ⟨fun he => h.1 (List.mem_map.2 ⟨e, he, rfl⟩), nodup_of_keys l h.2⟩

theorem fg_nodup (a : Arr) : a.fg.Nodup := nodup_of_keys _ (fg_keys_nodup a)

theorem mem_fg (a : Arr) (v : Coord × Lab) : v ∈ a.fg ↔ v ∈ a.voxels ∧ v.2 ≠ 0 := by
  unfold Arr.fg
  rw [List.mem_filter, bne_iff_ne]

/-- two entries of an association list with distinct keys that share the key are equal -/
theorem keys_unique {κ ν : Type} {l : List (κ × ν)} (h : (l.map (·.1)).Nodup) {k : κ} {x y : ν}
    (h1 : (k, x) ∈ l) (h2 : (k, y) ∈ l) : x = y := by
  induction l with
  | nil => cases h1
  | cons e es ih =>
    rw [List.map_cons, List.nodup_cons] at h
    rcases List.mem_cons.1 h1 with h1 | h1 <;> rcases List.mem_cons.1 h2 with h2 | h2
    · rw [← h1] at h2; exact (Prod.mk.inj h2).2.symm ▸ rfl
    · exfalso; apply h.1; rw [← h1]; exact List.mem_map.2 ⟨_, h2, rfl⟩
    · exfalso; apply h.1; rw [← h2]; exact List.mem_map.2 ⟨_, h1, rfl⟩
    · exact ih h.2 h1 h2

theorem zip_map_zip {κ ν μ : Type} (h : κ × ν → μ) : ∀ (l : List κ) (d : List ν),
    l.zip ((l.zip d).map h) = (l.zip d).map (fun p => (p.1, h p))
  | [], _ => by simp
  | _ :: _, [] => by simp
  | k :: l, x :: d => by
    rw [List.zip_cons_cons, List.map_cons, List.zip_cons_cons, List.map_cons, zip_map_zip h l d]

theorem lookupLabel_eq_lab (tbl : List ((Coord × Lab) × Nat)) (v : Coord × Lab) :
    lookupLabel tbl v = lab tbl v := by
  unfold lookupLabel lab
  cases List.find? (fun e => e.1 == v) tbl <;> rfl

/-- the labelled array's foreground is the input's foreground with the component numbers -/
theorem cc_fg (b : Backend) (a : Arr) :
    (connectedComponents b a).1.fg =
      a.fg.map (fun v => (v.1, lab (ccLabel (backendAdj b) a.fg) v)) := by
  obtain ⟨htot, hkeys, _⟩ := C05.cc_total (backendAdj b) (C05.backendAdj_symm b) a.fg (fg_nodup a)
  have hpos : ∀ v ∈ a.fg, lab (ccLabel (backendAdj b) a.fg) v ≠ 0 := by
    intro v hv
    obtain ⟨n, hn⟩ := htot v hv
    rw [lab_eq hkeys hn]
    have := (C05.cc_range (backendAdj b) (C05.backendAdj_symm b) a.fg (fg_nodup a) n).1 ⟨v, hn⟩
    omega
  show (List.filter (fun v => v.2 != 0) ((allCoords a.shape).zip (a.voxels.map _))) = _
  unfold Arr.voxels
  rw [zip_map_zip, List.filter_map]
  show _ = List.map _ (List.filter (fun v => v.2 != 0) ((allCoords a.shape).zip a.data))
  have hfilt : List.filter ((fun v : Coord × Lab => v.2 != 0) ∘ fun p : Coord × Lab =>
        (p.1, if (p.2 == 0) = true then 0 else lookupLabel (ccLabel (backendAdj b) a.fg) p))
        ((allCoords a.shape).zip a.data) =
      List.filter (fun v => v.2 != 0) ((allCoords a.shape).zip a.data) := by
    apply List.filter_congr
    intro p hp
    simp only [Function.comp_apply]
    by_cases h0 : p.2 = 0
    · simp [h0]
    · have hpf : p ∈ a.fg := (mem_fg a p).2 ⟨hp, h0⟩
      have := hpos p hpf
      simp only [beq_iff_eq, h0, if_false, lookupLabel_eq_lab]
      rw [Bool.eq_iff_iff, bne_iff_ne, bne_iff_ne]
      exact ⟨fun _ => h0, fun _ => this⟩
  rw [hfilt]
  apply List.map_congr_left
  intro p hp
  have h0 : p.2 ≠ 0 := by
    have := (List.mem_filter.1 hp).2
    rwa [bne_iff_ne] at this
  simp only [beq_iff_eq, h0, if_false, lookupLabel_eq_lab]

theorem cc_count (b : Backend) (a : Arr) : (connectedComponents b a).2 = ccCount (backendAdj b) a.fg := rfl

/-- Level 2: the labelled array of the transported array is the transported labelled array with the
    component numbers renamed -/
theorem cc_transport (b : Backend) (f : Coord → Coord) (a a' : Arr)
    (hinj : ∀ x y, x ∈ a.fg → y ∈ a.fg → f x.1 = f y.1 → x.1 = y.1)
    (hadj : ∀ x y, x ∈ a.fg → y ∈ a.fg → backendAdj b (f x.1, x.2) (f y.1, y.2) = backendAdj b x y)
    (hperm : a'.fg.Perm (a.fg.map (fun v => (f v.1, v.2)))) :
    ∃ ρ : Nat → Nat,
      RenumSpec (backendAdj b) (backendAdj b) (fun v : Coord × Lab => (f v.1, v.2)) a.fg a'.fg ρ ∧
      ((connectedComponents b a').1.fg).Perm
        (((connectedComponents b a).1.fg).map (fun v => (f v.1, ρ v.2))) := by
  have hinj' : ∀ x y, x ∈ a.fg → y ∈ a.fg →
      (fun v : Coord × Lab => (f v.1, v.2)) x = (fun v : Coord × Lab => (f v.1, v.2)) y → x = y := by
    intro x y hx hy h
    simp only [Prod.mk.injEq] at h
    exact Prod.ext (hinj x y hx hy h.1) h.2
  have spec := renum_spec (backendAdj b) (backendAdj b) (fun v : Coord × Lab => (f v.1, v.2)) a.fg a'.fg
    (C05.backendAdj_symm b) (C05.backendAdj_symm b) (fg_nodup a) hinj' hadj hperm
  refine ⟨_, spec, ?_⟩
  obtain ⟨htot, hkeys, _⟩ := C05.cc_total (backendAdj b) (C05.backendAdj_symm b) a.fg (fg_nodup a)
  obtain ⟨_, hkeys', _⟩ := C05.cc_total (backendAdj b) (C05.backendAdj_symm b) a'.fg (fg_nodup a')
  rw [cc_fg b a', cc_fg b a]
  refine (hperm.map _).trans (List.Perm.of_eq ?_)
  rw [List.map_map, List.map_map]
  apply List.map_congr_left
  intro v hv
  obtain ⟨n, hn⟩ := htot v hv
  simp only [Function.comp_apply]
  rw [lab_eq hkeys hn, lab_eq hkeys' (spec.maps v n hn)]

/-! ### Level 3a: arrays as functions of the coordinate; foreground pairs of transported arrays -/

/-- the value of the array at coordinate `c` (0 outside the array) -/
def valAt (a : Arr) (c : Coord) : Lab := lab a.voxels c

theorem fg_sub_voxels (a : Arr) (v : Coord × Lab) (h : v ∈ a.fg) : v ∈ a.voxels :=
  ((mem_fg a v).1 h).1

theorem valAt_of_mem_fg (a : Arr) (v : Coord × Lab) (h : v ∈ a.fg) : valAt a v.1 = v.2 :=
  lab_eq (voxels_keys_nodup a) (fg_sub_voxels a v h)

theorem mem_fg_of_valAt_ne (a : Arr) (c : Coord) (h : valAt a c ≠ 0) : (c, valAt a c) ∈ a.fg := by
  unfold valAt lab at h ⊢
  cases hf : a.voxels.find? (fun e => e.1 == c) with
  | none => rw [hf] at h; exact absurd rfl h
  | some e =>
    rw [hf] at h
    have h1 : e.1 = c := eq_of_beq (List.find?_some (p := fun e : Coord × Nat => e.1 == c) hf)
    have h2 : e ∈ a.voxels := List.mem_of_find?_eq_some hf
    rw [mem_fg]
    refine ⟨?_, h⟩
    show (c, e.2) ∈ a.voxels
    rw [← h1]; exact h2

theorem coord_of_mem_fg (a : Arr) (v : Coord × Lab) (h : v ∈ a.fg) : v.1 ∈ allCoords a.shape :=
  (List.of_mem_zip (a := v.1) (b := v.2) (fg_sub_voxels a v h)).1

theorem map_lab_zip {κ : Type} [BEq κ] [LawfulBEq κ] (ks : List κ) (d : List Nat) (hnd : ks.Nodup)
    (hlen : d.length = ks.length) : d = ks.map (lab (ks.zip d)) := by
  apply List.ext_getElem
  · rw [List.length_map, hlen]
  · intro i h1 h2
    rw [List.getElem_map]
    symm
    rw [List.length_map] at h2
    apply lab_eq (keys_zip_nodup ks d hnd)
    rw [List.mem_iff_getElem]
    refine ⟨i, ?_, ?_⟩
    · rw [List.length_zip]; omega
    · rw [List.getElem_zip]

theorem data_eq_map_valAt (a : Arr) (hwf : a.data.length = shapeSize a.shape) :
    a.data = (allCoords a.shape).map (valAt a) :=
  map_lab_zip _ _ (allCoords_nodup a.shape) (by rw [hwf, allCoords_length])

open Panoptica.C10 in
theorem fgPairs_map_coords (l : List Coord) (u v : Coord → Lab) :
    fgPairs (l.map u) (l.map v) = (l.filter (fun c => u c != 0 || v c != 0)).map (fun c => (u c, v c)) := by
  unfold fgPairs
  rw [List.zip_map', List.filter_map]
  rfl

/-- the coordinates where at least one of the two arrays is foreground -/
def support2 (A B : Arr) : List Coord :=
  (allCoords A.shape).filter (fun c => valAt A c != 0 || valAt B c != 0)

theorem mem_support2 (A B : Arr) (hs : B.shape = A.shape) (c : Coord) :
    c ∈ support2 A B ↔ ∃ y ∈ A.fg ++ B.fg, y.1 = c := by
  unfold support2
  rw [List.mem_filter, Bool.or_eq_true, bne_iff_ne, bne_iff_ne]
  constructor
  · rintro ⟨_, h | h⟩
    · exact ⟨_, List.mem_append_left _ (mem_fg_of_valAt_ne A c h), rfl⟩
    · exact ⟨_, List.mem_append_right _ (mem_fg_of_valAt_ne B c h), rfl⟩
  · rintro ⟨y, hy, rfl⟩
    rcases List.mem_append.1 hy with hy | hy
    · refine ⟨coord_of_mem_fg A y hy, Or.inl ?_⟩
      rw [valAt_of_mem_fg A y hy]
      exact ((mem_fg A y).1 hy).2
    · refine ⟨hs ▸ coord_of_mem_fg B y hy, Or.inr ?_⟩
      rw [valAt_of_mem_fg B y hy]
      exact ((mem_fg B y).1 hy).2

/-- values of the transported array at the images of the coordinates of `K ⊇ A.fg` -/
theorem valAt_image (A A' : Arr) (F : Coord → Coord) (φ : Nat → Nat) (hφ0 : ∀ k, φ k = 0 ↔ k = 0)
    (K : List (Coord × Lab)) (hsub : ∀ v ∈ A.fg, v ∈ K)
    (hinj : ∀ x y, x ∈ K → y ∈ K → F x.1 = F y.1 → x.1 = y.1)
    (hA : A'.fg.Perm (A.fg.map (fun v => (F v.1, φ v.2)))) :
    ∀ y ∈ K, valAt A' (F y.1) = φ (valAt A y.1) := by
  intro y hy
  by_cases h : valAt A y.1 = 0
  · rw [h, (hφ0 0).2 rfl]
    refine Classical.byContradiction fun h' => ?_
    have hm := mem_fg_of_valAt_ne A' _ h'
    obtain ⟨v, hv, hveq⟩ := List.mem_map.1 (hA.mem_iff.1 hm)
    simp only [Prod.mk.injEq] at hveq
    have hvy : v.1 = y.1 := hinj v y (hsub v hv) hy hveq.1
    have := valAt_of_mem_fg A v hv
    rw [hvy, h] at this
    exact ((mem_fg A v).1 hv).2 this.symm
  · have hm := mem_fg_of_valAt_ne A _ h
    have hm' : (F y.1, φ (valAt A y.1)) ∈ A'.fg :=
      hA.mem_iff.2 (List.mem_map.2 ⟨_, hm, rfl⟩)
    exact valAt_of_mem_fg A' _ hm'

open Panoptica.C10 in
/-- the foreground label pairs of the transported pair are a rearrangement of the (renamed)
    foreground label pairs of the original pair -/
theorem fgPairs_transport (A B A' B' : Arr)
    (hwA : A.data.length = shapeSize A.shape) (hwB : B.data.length = shapeSize B.shape)
    (hwA' : A'.data.length = shapeSize A'.shape) (hwB' : B'.data.length = shapeSize B'.shape)
    (hs : B.shape = A.shape) (hs' : B'.shape = A'.shape)
    (F : Coord → Coord) (φ ψ : Nat → Nat) (hφ0 : ∀ k, φ k = 0 ↔ k = 0) (hψ0 : ∀ k, ψ k = 0 ↔ k = 0)
    (hinj : ∀ x y, x ∈ A.fg ++ B.fg → y ∈ A.fg ++ B.fg → F x.1 = F y.1 → x.1 = y.1)
    (hA : A'.fg.Perm (A.fg.map (fun v => (F v.1, φ v.2))))
    (hB : B'.fg.Perm (B.fg.map (fun v => (F v.1, ψ v.2)))) :
    (fgPairs (A.data.map φ) (B.data.map ψ)).Perm (fgPairs A'.data B'.data) := by
  have hvA := valAt_image A A' F φ hφ0 (A.fg ++ B.fg) (fun v hv => List.mem_append_left _ hv) hinj hA
  have hvB := valAt_image B B' F ψ hψ0 (A.fg ++ B.fg) (fun v hv => List.mem_append_right _ hv) hinj hB
  -- left-hand side
  have hL : fgPairs (A.data.map φ) (B.data.map ψ) =
      (support2 A B).map (fun c => (φ (valAt A c), ψ (valAt B c))) := by
    conv => lhs; rw [data_eq_map_valAt A hwA, data_eq_map_valAt B hwB, hs, List.map_map, List.map_map]
    rw [fgPairs_map_coords]
    unfold support2
    congr 1
    apply List.filter_congr
    intro c _
    simp only [Function.comp_apply]
    rw [Bool.eq_iff_iff, Bool.or_eq_true, Bool.or_eq_true, bne_iff_ne, bne_iff_ne, bne_iff_ne,
      bne_iff_ne, ne_eq, ne_eq, ne_eq, ne_eq, hφ0, hψ0]
  have hR : fgPairs A'.data B'.data = (support2 A' B').map (fun c => (valAt A' c, valAt B' c)) := by
    conv => lhs; rw [data_eq_map_valAt A' hwA', data_eq_map_valAt B' hwB', hs']
    rw [fgPairs_map_coords]
    rfl
  have hFinj : ∀ c ∈ support2 A B, ∀ d ∈ support2 A B, F c = F d → c = d := by
    intro c hc d hd h
    obtain ⟨x, hx, rfl⟩ := (mem_support2 A B hs c).1 hc
    obtain ⟨y, hy, rfl⟩ := (mem_support2 A B hs d).1 hd
    exact hinj x y hx hy h
  have hU : (support2 A' B').Perm ((support2 A B).map F) := by
    apply (List.perm_ext_iff_of_nodup ?_ ?_).2
    · intro c'
      rw [mem_support2 A' B' hs', List.mem_map]
      constructor
      · rintro ⟨y', hy', rfl⟩
        rcases List.mem_append.1 hy' with h | h
        · obtain ⟨v, hv, rfl⟩ := List.mem_map.1 (hA.mem_iff.1 h)
          exact ⟨v.1, (mem_support2 A B hs _).2 ⟨v, List.mem_append_left _ hv, rfl⟩, rfl⟩
        · obtain ⟨v, hv, rfl⟩ := List.mem_map.1 (hB.mem_iff.1 h)
          exact ⟨v.1, (mem_support2 A B hs _).2 ⟨v, List.mem_append_right _ hv, rfl⟩, rfl⟩
      · rintro ⟨c, hc, rfl⟩
        obtain ⟨y, hy, rfl⟩ := (mem_support2 A B hs c).1 hc
        rcases List.mem_append.1 hy with h | h
        · exact ⟨_, List.mem_append_left _ (hA.mem_iff.2 (List.mem_map.2 ⟨y, h, rfl⟩)), rfl⟩
        · exact ⟨_, List.mem_append_right _ (hB.mem_iff.2 (List.mem_map.2 ⟨y, h, rfl⟩)), rfl⟩
    · exact (allCoords_nodup _).sublist List.filter_sublist
    · exact nodup_map_on F _ hFinj ((allCoords_nodup _).sublist List.filter_sublist)
  rw [hL, hR]
  refine ((hU.map _).trans (List.Perm.of_eq ?_)).symm
  rw [List.map_map]
  apply List.map_congr_left
  intro c hc
  obtain ⟨y, hy, rfl⟩ := (mem_support2 A B hs c).1 hc
  simp only [Function.comp_apply]
  rw [hvA y hy, hvB y hy]

/-! ### Level 3b: the labelled arrays handed to the matching phase -/

/-- the non-zero values of the labelled array are exactly the component numbers `1..n` -/
theorem mem_cc_data (b : Backend) (a : Arr) (x : Nat) :
    (x ∈ (connectedComponents b a).1.data ∧ x ≠ 0) ↔ (1 ≤ x ∧ x ≤ ccCount (backendAdj b) a.fg) := by
  obtain ⟨htot, hkeys, hsub⟩ := C05.cc_total (backendAdj b) (C05.backendAdj_symm b) a.fg (fg_nodup a)
  have hrange := C05.cc_range (backendAdj b) (C05.backendAdj_symm b) a.fg (fg_nodup a)
  show (x ∈ a.voxels.map _ ∧ x ≠ 0) ↔ _
  rw [List.mem_map]
  constructor
  · rintro ⟨⟨p, hp, hpx⟩, hx0⟩
    by_cases h0 : p.2 = 0
    · simp only [h0, beq_self_eq_true, if_true] at hpx
      exact absurd hpx.symm hx0
    · simp only [beq_iff_eq, h0, if_false, lookupLabel_eq_lab] at hpx
      obtain ⟨n, hn⟩ := htot p ((mem_fg a p).2 ⟨hp, h0⟩)
      rw [lab_eq hkeys hn] at hpx
      subst hpx
      exact (hrange n).1 ⟨p, hn⟩
  · intro hx
    obtain ⟨v, hv⟩ := (hrange x).2 hx
    have hvf : v ∈ a.fg := hsub (v, x) hv
    have h0 : v.2 ≠ 0 := ((mem_fg a v).1 hvf).2
    refine ⟨⟨v, fg_sub_voxels a v hvf, ?_⟩, by omega⟩
    simp only [beq_iff_eq, h0, if_false, lookupLabel_eq_lab]
    exact lab_eq hkeys hv

theorem cc_data_le (b : Backend) (a : Arr) (x : Nat) (hx : x ∈ (connectedComponents b a).1.data) :
    x ≤ ccCount (backendAdj b) a.fg := by
  by_cases h0 : x = 0
  · omega
  · exact ((mem_cc_data b a x).1 ⟨hx, h0⟩).2

/-- the count reported by the labelling is the number of distinct labels of the labelled array -/
theorem labelsOf_cc_length (b : Backend) (a : Arr) :
    (labelsOf (connectedComponents b a).1.data).length = ccCount (backendAdj b) a.fg := by
  have hp : (labelsOf (connectedComponents b a).1.data).Perm (List.range' 1 (ccCount (backendAdj b) a.fg)) := by
    apply (List.perm_ext_iff_of_nodup (labelsOf_nodup _) List.nodup_range').2
    intro x
    rw [mem_labelsOf, mem_cc_data, List.mem_range'_1]
    omega
  rw [hp.length_eq, List.length_range']

theorem cc_data_length (b : Backend) (a : Arr) (hwf : a.data.length = shapeSize a.shape) :
    (connectedComponents b a).1.data.length = shapeSize a.shape := by
  show (a.voxels.map _).length = _
  rw [List.length_map]
  unfold Arr.voxels
  rw [List.length_zip, allCoords_length, hwf, Nat.min_self]

theorem fg_nil_of_labelsOf_nil (a : Arr) (h : labelsOf a.data = []) : a.fg = [] := by
  unfold Arr.fg
  rw [List.filter_eq_nil_iff]
  intro v hv hne
  rw [bne_iff_ne] at hne
  have : v.2 ∈ labelsOf a.data :=
    (mem_labelsOf a.data v.2).2 ⟨(List.of_mem_zip (a := v.1) (b := v.2) hv).2, hne⟩
  rw [h] at this
  cases this

theorem ccCount_nil {α : Type} [BEq α] (adj : α → α → Bool) : ccCount adj [] = 0 := rfl

/-- what the SEMANTIC branch hands to the matching phase for one of the two maps -/
def semPart (b : Backend) (a : Arr) : Arr × Nat :=
  if (labelsOf a.data).isEmpty then (a, 0) else connectedComponents b a

theorem semPart_count (b : Backend) (a : Arr) : (semPart b a).2 = ccCount (backendAdj b) a.fg := by
  unfold semPart
  by_cases h : (labelsOf a.data).isEmpty = true
  · rw [if_pos h, fg_nil_of_labelsOf_nil a (List.isEmpty_iff.1 h)]
    rfl
  · rw [if_neg h]
    rfl

theorem semPart_arr (b : Backend) (a : Arr) (h : ccCount (backendAdj b) a.fg ≠ 0) :
    (semPart b a).1 = (connectedComponents b a).1 := by
  unfold semPart
  by_cases he : (labelsOf a.data).isEmpty = true
  · exfalso
    apply h
    rw [fg_nil_of_labelsOf_nil a (List.isEmpty_iff.1 he)]
    rfl
  · rw [if_neg he]

theorem pipeline_semantic (cfg : Config) (bits : Nat) (pred ref : Arr) (hin : cfg.input = .SEMANTIC) :
    pipeline cfg bits pred ref =
      matchPhase cfg
        (smallestUintBits (max
          (maxOf (semPart (cfg.backend.getD (defaultBackend pred.shape.length)) pred).1.data)
          (maxOf (semPart (cfg.backend.getD (defaultBackend pred.shape.length)) ref).1.data)))
        (semPart (cfg.backend.getD (defaultBackend pred.shape.length)) pred).1
        (semPart (cfg.backend.getD (defaultBackend pred.shape.length)) ref).1
        (semPart (cfg.backend.getD (defaultBackend pred.shape.length)) pred).2
        (semPart (cfg.backend.getD (defaultBackend pred.shape.length)) ref).2 := by
  unfold pipeline
  rw [hin]
  rfl

/-- with the true instance counts, the matching phase is the pipeline for unmatched instance input -/
theorem matchPhase_eq_unmatched (cfg : Config) (bits : Nat) (p r : Arr) :
    matchPhase cfg bits p r (labelsOf p.data).length (labelsOf r.data).length =
      pipeline { cfg with input := .UNMATCHED } bits p r := by
  unfold pipeline
  rfl

/-! ### Level 3c: end to end -/

theorem key_of_cc_fg (b : Backend) (a : Arr) (x : Coord × Lab) (hx : x ∈ (connectedComponents b a).1.fg) :
    ∃ v ∈ a.fg, v.1 = x.1 := by
  rw [cc_fg] at hx
  obtain ⟨v, hv, rfl⟩ := List.mem_map.1 hx
  exact ⟨v, hv, rfl⟩

section spec
variable {b : Backend} {a : Arr} {adj' : Coord × Lab → Coord × Lab → Bool} {g : Coord × Lab → Coord × Lab}
  {V' : List (Coord × Lab)} {ρ : Nat → Nat}

theorem spec_inj_on_data (spec : RenumSpec (backendAdj b) adj' g a.fg V' ρ) :
    ∀ x ∈ (connectedComponents b a).1.data, ∀ y ∈ (connectedComponents b a).1.data, ρ x = ρ y → x = y := by
  intro x hx y hy h
  by_cases hx0 : x = 0
  · have : ρ y = 0 := by rw [← h]; exact (spec.zero x).2 hx0
    rw [hx0, (spec.zero y).1 this]
  · have hy0 : y ≠ 0 := by
      intro hy0
      have : ρ x = 0 := by rw [h]; exact (spec.zero y).2 hy0
      exact hx0 ((spec.zero x).1 this)
    obtain ⟨hx1, hx2⟩ := (mem_cc_data b a x).1 ⟨hx, hx0⟩
    obtain ⟨hy1, hy2⟩ := (mem_cc_data b a y).1 ⟨hy, hy0⟩
    exact spec.inj x y hx1 hx2 hy1 hy2 h

theorem spec_bound (spec : RenumSpec (backendAdj b) adj' g a.fg V' ρ) :
    ∀ x ∈ (connectedComponents b a).1.data, ρ x ≤ ccCount (backendAdj b) a.fg := by
  intro x hx
  by_cases hx0 : x = 0
  · rw [(spec.zero x).2 hx0]; omega
  · obtain ⟨hx1, hx2⟩ := (mem_cc_data b a x).1 ⟨hx, hx0⟩
    exact (spec.range x hx1 hx2).2

end spec

/-! ### what every end-to-end theorem for semantic input starts from -/

/-- the result for a scene in which one map has no instance -/
def zeroOut (cfg : Config) (nr np : Nat) : PipeOut :=
  { nRef := nr, nPred := np, tp := 0, lists := cfg.evalMetrics.map (fun m => (m, [])),
    matchedPred := none, lmap := none }

theorem zeroOut_lists_perm (cfg : Config) (nr np nr' np' : Nat) (m : Metric) (vals vals' : List Score)
    (hv : (m, vals) ∈ (zeroOut cfg nr np).lists) (hv' : (m, vals') ∈ (zeroOut cfg nr' np').lists) :
    vals.Perm vals' := by
  obtain ⟨_, _, e1⟩ := List.mem_map.1 hv
  obtain ⟨_, _, e2⟩ := List.mem_map.1 hv'
  rw [← (Prod.mk.inj e1).2, ← (Prod.mk.inj e2).2]

/-- semantic input: either one map has no component and the result is `zeroOut`, or the pipeline is
    the UNMATCHED pipeline on the two component arrays, which are instance arrays of a common shape
    with non-empty label sets -/
theorem pipeline_semantic_cases (cfg : Config) (bits : Nat) (pred ref : Arr) (hin : cfg.input = .SEMANTIC)
    (b : Backend) (hb : cfg.backend.getD (defaultBackend pred.shape.length) = b)
    (hs : ref.shape = pred.shape) :
    ((ccCount (backendAdj b) pred.fg = 0 ∨ ccCount (backendAdj b) ref.fg = 0) ∧
      pipeline cfg bits pred ref =
        .ok (zeroOut cfg (ccCount (backendAdj b) ref.fg) (ccCount (backendAdj b) pred.fg))) ∨
    (labelsOf (connectedComponents b pred).1.data ≠ [] ∧ labelsOf (connectedComponents b ref).1.data ≠ [] ∧
      ∃ bits', pipeline cfg bits pred ref = pipeline { cfg with input := .UNMATCHED } bits'
        ⟨pred.shape, (connectedComponents b pred).1.data⟩ ⟨pred.shape, (connectedComponents b ref).1.data⟩) := by
  rw [pipeline_semantic cfg bits pred ref hin, hb, semPart_count, semPart_count]
  generalize smallestUintBits _ = bitsA
  by_cases h0 : ccCount (backendAdj b) pred.fg = 0 ∨ ccCount (backendAdj b) ref.fg = 0
  · exact Or.inl ⟨h0, matchPhase_zero _ _ _ _ _ _ h0⟩
  · have hp0 := fun h => h0 (Or.inl h)
    have hr0 := fun h => h0 (Or.inr h)
    have nil : ∀ a, ccCount (backendAdj b) a.fg ≠ 0 → labelsOf (connectedComponents b a).1.data ≠ [] :=
      fun a ha hnil => ha (by rw [← labelsOf_cc_length b a, hnil]; rfl)
    have eR : (connectedComponents b ref).1 = ⟨pred.shape, (connectedComponents b ref).1.data⟩ := by
      rw [← hs]; rfl
    rw [semPart_arr b pred hp0, semPart_arr b ref hr0, ← labelsOf_cc_length b pred,
      ← labelsOf_cc_length b ref, matchPhase_eq_unmatched]
    exact Or.inr ⟨nil pred hp0, nil ref hr0, bitsA,
      congrArg (pipeline _ bitsA (connectedComponents b pred).1) eR⟩

theorem cc_pair_length (b : Backend) (pred ref : Arr) (hs : ref.shape = pred.shape)
    (hwp : pred.data.length = shapeSize pred.shape) (hwr : ref.data.length = shapeSize ref.shape) :
    (connectedComponents b pred).1.data.length = (connectedComponents b ref).1.data.length := by
  rw [cc_data_length b pred hwp, cc_data_length b ref hwr, hs]

/-! ### Level 2 for a *pair* of maps: pure geometry, no pipeline -/

/-- the component arrays of a transported pair have, after renumbering the components of each map,
    the same foreground pairs as the component arrays of the original pair -/
theorem cc_pair_transport (pred ref pred' ref' : Arr) (f : Coord → Coord) (b : Backend)
    (hwp : pred.data.length = shapeSize pred.shape) (hwr : ref.data.length = shapeSize ref.shape)
    (hwp' : pred'.data.length = shapeSize pred'.shape) (hwr' : ref'.data.length = shapeSize ref'.shape)
    (hs : ref.shape = pred.shape) (hs' : ref'.shape = pred'.shape)
    (hinj : ∀ x y, x ∈ pred.fg ++ ref.fg → y ∈ pred.fg ++ ref.fg → f x.1 = f y.1 → x.1 = y.1)
    (hadjP : ∀ x y, x ∈ pred.fg → y ∈ pred.fg → backendAdj b (f x.1, x.2) (f y.1, y.2) = backendAdj b x y)
    (hadjR : ∀ x y, x ∈ ref.fg → y ∈ ref.fg → backendAdj b (f x.1, x.2) (f y.1, y.2) = backendAdj b x y)
    (hpermP : pred'.fg.Perm (pred.fg.map (fun v => (f v.1, v.2))))
    (hpermR : ref'.fg.Perm (ref.fg.map (fun v => (f v.1, v.2)))) :
    ∃ ρp ρr : Nat → Nat,
      C09.Renaming ρp (connectedComponents b pred).1.data ∧ C09.Renaming ρr (connectedComponents b ref).1.data ∧
      (∀ x ∈ (connectedComponents b pred).1.data, ρp x ≤ ccCount (backendAdj b) pred.fg) ∧
      (∀ x ∈ (connectedComponents b ref).1.data, ρr x ≤ ccCount (backendAdj b) ref.fg) ∧
      ccCount (backendAdj b) pred'.fg = ccCount (backendAdj b) pred.fg ∧
      ccCount (backendAdj b) ref'.fg = ccCount (backendAdj b) ref.fg ∧
      (fgPairs ((connectedComponents b pred).1.data.map ρp) ((connectedComponents b ref).1.data.map ρr)).Perm
        (fgPairs (connectedComponents b pred').1.data (connectedComponents b ref').1.data) := by
  obtain ⟨ρp, specP, permP⟩ := cc_transport b f pred pred'
    (fun x y hx hy => hinj x y (List.mem_append_left _ hx) (List.mem_append_left _ hy)) hadjP hpermP
  obtain ⟨ρr, specR, permR⟩ := cc_transport b f ref ref'
    (fun x y hx hy => hinj x y (List.mem_append_right _ hx) (List.mem_append_right _ hy)) hadjR hpermR
  refine ⟨ρp, ρr,
    ⟨(specP.zero 0).2 rfl, fun x _ hx0 hρ => hx0 ((specP.zero x).1 hρ), spec_inj_on_data specP⟩,
    ⟨(specR.zero 0).2 rfl, fun x _ hx0 hρ => hx0 ((specR.zero x).1 hρ), spec_inj_on_data specR⟩,
    spec_bound specP, spec_bound specR, specP.count, specR.count, ?_⟩
  refine fgPairs_transport (connectedComponents b pred).1 (connectedComponents b ref).1
    (connectedComponents b pred').1 (connectedComponents b ref').1
    (cc_data_length b pred hwp) (cc_data_length b ref hwr) (cc_data_length b pred' hwp')
    (cc_data_length b ref' hwr') hs hs' f ρp ρr specP.zero specR.zero ?_ permP permR
  -- the component arrays have the foreground coordinates of the inputs
  have key : ∀ z, z ∈ (connectedComponents b pred).1.fg ++ (connectedComponents b ref).1.fg →
      ∃ v ∈ pred.fg ++ ref.fg, v.1 = z.1 := by
    intro z hz
    rcases List.mem_append.1 hz with hz | hz
    · obtain ⟨v, hv, e⟩ := key_of_cc_fg b pred z hz
      exact ⟨v, List.mem_append_left _ hv, e⟩
    · obtain ⟨v, hv, e⟩ := key_of_cc_fg b ref z hz
      exact ⟨v, List.mem_append_right _ hv, e⟩
  intro x y hx hy hxy
  obtain ⟨v, hv, e1⟩ := key x hx
  obtain ⟨w, hw, e2⟩ := key y hy
  rw [← e1, ← e2] at hxy ⊢
  exact hinj v w hv hw hxy

/-! ### the instance-level theorem behind all of C09 / C10 end to end: the report is invariant, up to
    the order of the per-instance lists, under (a) any rearrangement of the foreground pairs and
    (b) injective renaming of each map's labels — stated over the two ingredients `hcounts`, `hrename`
    exactly as `SemanticMore.pipeline_semantic_generic` takes them -/

section
variable (cfg : Config) (mc : MatcherCfg) (D : List (Cand Score) → Prop)

/-- `hcounts` of `pipeline_semantic_generic` -/
def CountsHyp : Prop := ∀ (bits : Nat) (s s' : List Nat) (pred ref pred' ref' : Flat),
  pred.length = ref.length → pred'.length = ref'.length →
  (∀ x ∈ pred ++ ref ++ pred' ++ ref', x < 2 ^ 32 - 1) →
  (fgPairs pred ref).Perm (fgPairs pred' ref') →
  (pipeline { cfg with input := .UNMATCHED } bits ⟨s, pred⟩ ⟨s, ref⟩).map C10.report =
    (pipeline { cfg with input := .UNMATCHED } bits ⟨s', pred'⟩ ⟨s', ref'⟩).map C10.report

/-- the conclusion shared by `C09.pipeline_rename(_m2o,_merge)` and `C10.pipeline_semantic_invariant(_m2o,_merge)` -/
def SameUpToOrder (out out' : PipeOut) : Prop :=
  out'.tp = out.tp ∧ out'.nRef = out.nRef ∧ out'.nPred = out.nPred ∧
  ∀ m ∈ cfg.evalMetrics, ∀ vals vals', (m, vals) ∈ out.lists → (m, vals') ∈ out'.lists → vals.Perm vals'

/-- `hrename` of `pipeline_semantic_generic` -/
def RenameHyp : Prop := ∀ (bits bits' : Nat) (s : List Nat) (pred ref : Flat) (σ τ : Lab → Lab),
  C09.Renaming σ pred → C09.Renaming τ ref → pred.length = ref.length →
  (∀ x ∈ pred ++ ref, x < 2 ^ 32 - 1) → (∀ x ∈ pred.map σ ++ ref.map τ, x < 2 ^ 32 - 1) →
  labelsOf pred ≠ [] → labelsOf ref ≠ [] →
  D (scoredCands mc.metric ⟨s, pred⟩ ⟨s, ref⟩) →
  ∀ (out out' : PipeOut), pipeline { cfg with input := .UNMATCHED } bits ⟨s, pred⟩ ⟨s, ref⟩ = .ok out →
  pipeline { cfg with input := .UNMATCHED } bits' ⟨s, pred.map σ⟩ ⟨s, ref.map τ⟩ = .ok out' →
  SameUpToOrder cfg out out'

theorem pipeline_rename_rearrange (hcounts : CountsHyp cfg) (hrename : RenameHyp cfg mc D)
    (bitsA bitsB : Nat) (s s' : List Nat) (P R P' R' : Flat) (σ τ : Lab → Lab)
    (hσ : C09.Renaming σ P) (hτ : C09.Renaming τ R) (hlen : P.length = R.length) (hlen' : P'.length = R'.length)
    (hb : ∀ x ∈ P ++ R, x < 2 ^ 32 - 1) (hbσ : ∀ x ∈ P.map σ ++ R.map τ, x < 2 ^ 32 - 1)
    (hb' : ∀ x ∈ P' ++ R', x < 2 ^ 32 - 1) (hP0 : labelsOf P ≠ []) (hR0 : labelsOf R ≠ [])
    (hD : D (scoredCands mc.metric ⟨s, P⟩ ⟨s, R⟩))
    (hfp : (fgPairs (P.map σ) (R.map τ)).Perm (fgPairs P' R'))
    (out out' : PipeOut) (h : pipeline { cfg with input := .UNMATCHED } bitsA ⟨s, P⟩ ⟨s, R⟩ = .ok out)
    (h' : pipeline { cfg with input := .UNMATCHED } bitsB ⟨s', P'⟩ ⟨s', R'⟩ = .ok out') :
    SameUpToOrder cfg out out' := by
  -- renamed original pair against the rearranged pair: same foreground pairs
  have hci := hcounts bitsB s s' _ _ _ _ (by rw [List.length_map, List.length_map]; exact hlen) hlen'
    (fun x hx => (List.mem_append.1 hx).elim (fun hx => (List.mem_append.1 hx).elim (hbσ x)
      (fun hx => hb' x (List.mem_append_left _ hx))) (fun hx => hb' x (List.mem_append_right _ hx))) hfp
  rw [h'] at hci
  cases hY : pipeline { cfg with input := .UNMATCHED } bitsB ⟨s, P.map σ⟩ ⟨s, R.map τ⟩ with
  | error e => rw [hY] at hci; cases hci
  | ok out'' =>
    rw [hY] at hci
    have hrep : C10.report out'' = C10.report out' := Except.ok.inj hci
    simp only [C10.report, Prod.mk.injEq] at hrep
    obtain ⟨e1, e2, e3, e4, _⟩ := hrep
    unfold SameUpToOrder
    rw [← e1, ← e2, ← e3, ← e4]
    -- original pair against its renaming
    exact hrename bitsA bitsB s P R σ τ hσ hτ hlen hb hbσ hP0 hR0 hD out out'' h hY

end

/-- semantic input end to end, with the two matcher-specific ingredients as hypotheses: `hcounts` (same foreground
    pairs up to order ⇒ same report, for the UNMATCHED configuration) and `hrename` (renaming both arrays by injective
    maps preserves tp / counts / lists up to order, under the side condition `D` on the scored candidates of the
    *original* pair) -/
theorem _root_.Panoptica.SemanticMore.pipeline_semantic_generic (cfg : Config) (mc : MatcherCfg) (hin : cfg.input = .SEMANTIC)
    (D : List (Cand Score) → Prop)
    (hcounts : ∀ (bits : Nat) (s s' : List Nat) (pred ref pred' ref' : Flat),
      pred.length = ref.length → pred'.length = ref'.length →
      (∀ x ∈ pred ++ ref ++ pred' ++ ref', x < 2 ^ 32 - 1) →
      (fgPairs pred ref).Perm (fgPairs pred' ref') →
      (pipeline { cfg with input := .UNMATCHED } bits ⟨s, pred⟩ ⟨s, ref⟩).map C10.report =
        (pipeline { cfg with input := .UNMATCHED } bits ⟨s', pred'⟩ ⟨s', ref'⟩).map C10.report)
    (hrename : ∀ (bits bits' : Nat) (s : List Nat) (pred ref : Flat) (σ τ : Lab → Lab),
      C09.Renaming σ pred → C09.Renaming τ ref → pred.length = ref.length →
      (∀ x ∈ pred ++ ref, x < 2 ^ 32 - 1) → (∀ x ∈ pred.map σ ++ ref.map τ, x < 2 ^ 32 - 1) →
      labelsOf pred ≠ [] → labelsOf ref ≠ [] →
      D (scoredCands mc.metric ⟨s, pred⟩ ⟨s, ref⟩) →
      ∀ (out out' : PipeOut), pipeline { cfg with input := .UNMATCHED } bits ⟨s, pred⟩ ⟨s, ref⟩ = .ok out →
      pipeline { cfg with input := .UNMATCHED } bits' ⟨s, pred.map σ⟩ ⟨s, ref.map τ⟩ = .ok out' →
      out'.tp = out.tp ∧ out'.nRef = out.nRef ∧ out'.nPred = out.nPred ∧
      ∀ m ∈ cfg.evalMetrics, ∀ vals vals', (m, vals) ∈ out.lists → (m, vals') ∈ out'.lists → vals.Perm vals')
    (bits bits₂ : Nat) (pred ref pred' ref' : Arr) (f : Coord → Coord) (b : Backend)
    (hb : cfg.backend.getD (defaultBackend pred.shape.length) = b)
    (hb' : cfg.backend.getD (defaultBackend pred'.shape.length) = b)
    (hwp : pred.data.length = shapeSize pred.shape) (hwr : ref.data.length = shapeSize ref.shape)
    (hwp' : pred'.data.length = shapeSize pred'.shape) (hwr' : ref'.data.length = shapeSize ref'.shape)
    (hs : ref.shape = pred.shape) (hs' : ref'.shape = pred'.shape)
    (hinj : ∀ x y, x ∈ pred.fg ++ ref.fg → y ∈ pred.fg ++ ref.fg → f x.1 = f y.1 → x.1 = y.1)
    (hadjP : ∀ x y, x ∈ pred.fg → y ∈ pred.fg → backendAdj b (f x.1, x.2) (f y.1, y.2) = backendAdj b x y)
    (hadjR : ∀ x y, x ∈ ref.fg → y ∈ ref.fg → backendAdj b (f x.1, x.2) (f y.1, y.2) = backendAdj b x y)
    (hpermP : pred'.fg.Perm (pred.fg.map (fun v => (f v.1, v.2))))
    (hpermR : ref'.fg.Perm (ref.fg.map (fun v => (f v.1, v.2))))
    (hbndP : ccCount (backendAdj b) pred.fg < 2 ^ 32 - 1)
    (hbndR : ccCount (backendAdj b) ref.fg < 2 ^ 32 - 1)
    (hdet : D (scoredCands mc.metric (connectedComponents b pred).1 (connectedComponents b ref).1))
    (out out' : PipeOut) (h : pipeline cfg bits pred ref = .ok out)
    (h' : pipeline cfg bits₂ pred' ref' = .ok out') :
    out'.tp = out.tp ∧ out'.nRef = out.nRef ∧ out'.nPred = out.nPred ∧
    ∀ m ∈ cfg.evalMetrics, ∀ vals vals', (m, vals) ∈ out.lists → (m, vals') ∈ out'.lists →
      vals.Perm vals' := by
  obtain ⟨ρp, ρr, hρp, hρr, hbρp, hbρr, hcP, hcR, hfp⟩ := cc_pair_transport pred ref pred' ref' f b
    hwp hwr hwp' hwr' hs hs' hinj hadjP hadjR hpermP hpermR
  have nil_iff : ∀ a, labelsOf (connectedComponents b a).1.data = [] ↔ ccCount (backendAdj b) a.fg = 0 :=
    fun a => by rw [← labelsOf_cc_length, List.length_eq_zero_iff]
  rcases pipeline_semantic_cases cfg bits pred ref hin b hb hs with ⟨h0, hz⟩ | ⟨hP0, hR0, bitsA, hA⟩ <;>
  rcases pipeline_semantic_cases cfg bits₂ pred' ref' hin b hb' hs' with ⟨h0', hz'⟩ | ⟨hP0', hR0', bitsB, hB⟩
  · -- one map without components: so has the transported pair, and both results are `zeroOut`
    obtain rfl := Except.ok.inj (hz.symm.trans h)
    obtain rfl := Except.ok.inj (hz'.symm.trans h')
    exact ⟨rfl, hcR, hcP, fun m _ vals vals' => zeroOut_lists_perm cfg _ _ _ _ m vals vals'⟩
  · rw [← hcP, ← hcR, ← nil_iff, ← nil_iff] at h0
    exact absurd h0 (not_or.2 ⟨hP0', hR0'⟩)
  · rw [hcP, hcR, ← nil_iff, ← nil_iff] at h0'
    exact absurd h0' (not_or.2 ⟨hP0, hR0⟩)
  · rw [hA] at h
    rw [hB] at h'
    have eR : (connectedComponents b ref).1 = ⟨pred.shape, (connectedComponents b ref).1.data⟩ := by
      rw [← hs]; rfl
    rw [eR] at hdet
    have lt : ∀ {n k : Nat}, n < 2 ^ 32 - 1 → k ≤ n → k < 2 ^ 32 - 1 := fun h1 h2 => Nat.lt_of_le_of_lt h2 h1
    refine pipeline_rename_rearrange cfg mc D hcounts hrename bitsA bitsB pred.shape pred'.shape _ _ _ _ ρp ρr
      hρp hρr (cc_pair_length b pred ref hs hwp hwr) (cc_pair_length b pred' ref' hs' hwp' hwr')
      ?_ ?_ ?_ hP0 hR0 hdet hfp out out' h h'
    · exact fun x hx => (List.mem_append.1 hx).elim
        (fun hx => lt hbndP (cc_data_le b pred x hx)) (fun hx => lt hbndR (cc_data_le b ref x hx))
    · intro x hx
      rcases List.mem_append.1 hx with hx | hx <;> obtain ⟨y, hy, rfl⟩ := List.mem_map.1 hx
      · exact lt hbndP (hbρp y hy)
      · exact lt hbndR (hbρr y hy)
    · exact fun x hx => (List.mem_append.1 hx).elim
        (fun hx => lt (hcP ▸ hbndP) (cc_data_le b pred' x hx)) (fun hx => lt (hcR ▸ hbndR) (cc_data_le b ref' x hx))

theorem pipeline_semantic_core (cfg : Config) (mc : MatcherCfg) (hin : cfg.input = .SEMANTIC)
    (hcU : C09.RelabelCfg { cfg with input := .UNMATCHED } mc)
    (hcb : C10.CountBased { cfg with input := .UNMATCHED })
    (bits bits₂ : Nat) (pred ref pred' ref' : Arr) (f : Coord → Coord) (b : Backend)
    (hb : cfg.backend.getD (defaultBackend pred.shape.length) = b)
    (hb' : cfg.backend.getD (defaultBackend pred'.shape.length) = b)
    (hwp : pred.data.length = shapeSize pred.shape) (hwr : ref.data.length = shapeSize ref.shape)
    (hwp' : pred'.data.length = shapeSize pred'.shape) (hwr' : ref'.data.length = shapeSize ref'.shape)
    (hs : ref.shape = pred.shape) (hs' : ref'.shape = pred'.shape)
    (hinj : ∀ x y, x ∈ pred.fg ++ ref.fg → y ∈ pred.fg ++ ref.fg → f x.1 = f y.1 → x.1 = y.1)
    (hadjP : ∀ x y, x ∈ pred.fg → y ∈ pred.fg → backendAdj b (f x.1, x.2) (f y.1, y.2) = backendAdj b x y)
    (hadjR : ∀ x y, x ∈ ref.fg → y ∈ ref.fg → backendAdj b (f x.1, x.2) (f y.1, y.2) = backendAdj b x y)
    (hpermP : pred'.fg.Perm (pred.fg.map (fun v => (f v.1, v.2))))
    (hpermR : ref'.fg.Perm (ref.fg.map (fun v => (f v.1, v.2))))
    (hbndP : ccCount (backendAdj b) pred.fg < 2 ^ 32 - 1)
    (hbndR : ccCount (backendAdj b) ref.fg < 2 ^ 32 - 1)
    (hdet : C03.Determined Score.le mc.metric.decreasing mc.thr
      (scoredCands mc.metric (connectedComponents b pred).1 (connectedComponents b ref).1))
    (out out' : PipeOut) (h : pipeline cfg bits pred ref = .ok out)
    (h' : pipeline cfg bits₂ pred' ref' = .ok out') :
    out'.tp = out.tp ∧ out'.nRef = out.nRef ∧ out'.nPred = out.nPred ∧
    ∀ m ∈ cfg.evalMetrics, ∀ vals vals', (m, vals) ∈ out.lists → (m, vals') ∈ out'.lists →
      vals.Perm vals' :=
  SemanticMore.pipeline_semantic_generic cfg mc hin (C03.Determined Score.le mc.metric.decreasing mc.thr)
    (C10.pipeline_counts_invariant _ hcb) (C09.pipeline_rename _ mc hcU)
    bits bits₂ pred ref pred' ref' f b hb hb' hwp hwr hwp' hwr' hs hs' hinj hadjP hadjR hpermP hpermR
    hbndP hbndR hdet out out' h h'

/-! ### sufficient conditions: grid isometries -/

theorem fg_coord_length (a : Arr) (v : Coord × Lab) (h : v ∈ a.fg) : v.1.length = a.shape.length :=
  allCoords_len a.shape v.1 (coord_of_mem_fg a v h)

/-- a grid isometry is injective on the coordinates of arrays of its dimension -/
theorem isometry_inj_on (n : Nat) (f : Coord → Coord) (hf : GridIsometry f n) (K : List (Coord × Lab))
    (hK : ∀ v ∈ K, v.1.length = n) : ∀ x ∈ K, ∀ y ∈ K, f x.1 = f y.1 → x.1 = y.1 :=
  fun x hx y hy h => hf.inj x.1 y.1 (hK x hx) (hK y hy) h

theorem scipy_adj_isometry (n : Nat) (f : Coord → Coord) (hf : GridIsometry f n) (K : List (Coord × Lab))
    (hK : ∀ v ∈ K, v.1.length = n) :
    ∀ x ∈ K, ∀ y ∈ K, backendAdj .scipy (f x.1, x.2) (f y.1, y.2) = backendAdj .scipy x y :=
  fun x hx y hy => C10.isometry_faceAdj n f hf x.1 y.1 (hK x hx) (hK y hy)

theorem cc3d_adj_of_full (n : Nat) (f : Coord → Coord)
    (hfull : ∀ a b : Coord, a.length = n → b.length = n → fullAdj (f a) (f b) = fullAdj a b)
    (K : List (Coord × Lab)) (hK : ∀ v ∈ K, v.1.length = n) :
    ∀ x ∈ K, ∀ y ∈ K, backendAdj .cc3d (f x.1, x.2) (f y.1, y.2) = backendAdj .cc3d x y := by
  intro x hx y hy
  show (fullAdj (f x.1) (f y.1) && x.2 == y.2) = (fullAdj x.1 y.1 && x.2 == y.2)
  rw [hfull x.1 y.1 (hK x hx) (hK y hy)]

/-! ### totality: the covered configurations always produce a result -/

theorem evalPhase_total (cfg : Config) (pred ref : Arr) (lm : Option LMap) (mp : Option Flat) :
    ∃ out, evalPhase cfg pred ref lm mp = .ok out := by
  by_cases h0 : labelsOf pred.data = [] ∨ labelsOf ref.data = []
  · exact ⟨_, evalPhase_of_zero cfg pred ref lm mp h0⟩
  · exact ⟨_, evalPhase_of_nonzero cfg pred ref lm mp (fun h => h0 (Or.inl h)) (fun h => h0 (Or.inr h))⟩

theorem matchPhase_total (cfg : Config) (bits : Nat) (p r : Arr) (np nr : Nat) (mc : MatcherCfg)
    (hm : cfg.matcher = some mc) : ∃ out, matchPhase cfg bits p r np nr = .ok out := by
  by_cases h0 : np = 0 ∨ nr = 0
  · exact ⟨_, matchPhase_zero cfg bits p r np nr h0⟩
  · obtain ⟨lm, hlm⟩ := Values.runMatcher_total mc p r
    have hn : (np == 0 || nr == 0) = false := by
      rw [Bool.or_eq_false_iff, beq_eq_false_iff_ne, beq_eq_false_iff_ne]
      exact ⟨fun h => h0 (Or.inl h), fun h => h0 (Or.inr h)⟩
    rw [matchPhase_of_nonzero cfg bits p r np nr mc lm hn hm hlm]
    exact evalPhase_total _ _ _ _ _

theorem pipeline_semantic_total (cfg : Config) (mc : MatcherCfg) (hin : cfg.input = .SEMANTIC)
    (hm : cfg.matcher = some mc) (bits : Nat) (pred ref : Arr) :
    ∃ out, pipeline cfg bits pred ref = .ok out := by
  rw [pipeline_semantic cfg bits pred ref hin]
  exact matchPhase_total _ _ _ _ _ _ mc hm

end SemanticE2E
end Panoptica
