/- the threshold matcher's loop (C03): one invariant, proved once by `foldl_sorted_inv`, for both
   values of `allow_many_to_one` -/
import Panoptica.Proofs.LMap
namespace Panoptica

section
variable {S : Type} (le : S → S → Bool) (dec : Bool) (thr : S) (m2o : Bool)

theorem naiveSkip_iff {m : LMap} {p r : Lab} :
    naiveSkip m2o m p r = true ↔ (∃ r', (p, r') ∈ m) ∨ (m2o = false ∧ ∃ p', (p', r) ∈ m) := by
  simp [naiveSkip, LMap.containsPred_iff, LMap.containsRef_iff, and_comm]

/-- the step either keeps the map or appends the candidate's pair -/
theorem naiveStep_cases (m : LMap) (c : Cand S) :
    (naiveStep le dec thr m2o m c = m ∧
      (naiveSkip m2o m c.pred c.ref = true ∨ beats le dec c.score thr = false)) ∨
    (naiveStep le dec thr m2o m c = m ++ [(c.pred, c.ref)] ∧
      ¬ naiveSkip m2o m c.pred c.ref = true ∧ beats le dec c.score thr = true) := by
  unfold naiveStep
  by_cases h : naiveSkip m2o m c.pred c.ref = true <;>
    by_cases hb : beats le dec c.score thr = true <;> simp [h, hb]

/-- The invariant of the threshold-matcher loop after the candidates `s` (processed in an order
    sorted by `R`) with label map `m`. -/
structure NaiveInv (R : Cand S → Cand S → Prop) (s : List (Cand S)) (m : LMap) : Prop where
  functional : (m.map (·.1)).Nodup
  injective : m2o = false → (m.map (·.2)).Nodup
  sound : ∀ e ∈ m, ∃ c ∈ s, c.pred = e.1 ∧ c.ref = e.2 ∧ beats le dec c.score thr = true
  /-- an eligible candidate is in the map, or an `R`-earlier candidate that is in the map took one of its partners -/
  best : ∀ c ∈ s, beats le dec c.score thr = true → (c.pred, c.ref) ∉ m →
    ∃ c' ∈ s, (c'.pred, c'.ref) ∈ m ∧ (c'.pred = c.pred ∨ (m2o = false ∧ c'.ref = c.ref)) ∧ R c' c ∧
      beats le dec c'.score thr = true

variable {le dec thr m2o}

theorem NaiveInv.step {R : Cand S → Cand S → Prop} {s : List (Cand S)} {m : LMap}
    (h : NaiveInv le dec thr m2o R s m) (a : Cand S) (ha : ∀ x ∈ s, R x a) :
    NaiveInv le dec thr m2o R (s ++ [a]) (naiveStep le dec thr m2o m a) := by
  have hsub : ∀ c ∈ s, c ∈ s ++ [a] := fun c hc => List.mem_append_left _ hc
  rcases naiveStep_cases le dec thr m2o m a with ⟨e, hskip⟩ | ⟨e, hskip, hb⟩ <;> rw [e]
  · -- map unchanged: only `best` has something to show, for `a` itself when it was blocked
    refine ⟨h.functional, h.injective, fun e he => ?_, fun c hc hb hnot => ?_⟩
    · obtain ⟨c, hc, h'⟩ := h.sound e he; exact ⟨c, hsub c hc, h'⟩
    · rcases List.mem_append.1 hc with hc | hc
      · obtain ⟨c', hc', h'⟩ := h.best c hc hb hnot; exact ⟨c', hsub c' hc', h'⟩
      · rw [List.mem_singleton] at hc; subst hc
        rcases hskip with hskip | hnb
        · -- the blocking entry was put there by an earlier candidate (`sound`)
          rcases (naiveSkip_iff m2o).1 hskip with ⟨r', hm⟩ | ⟨h0, p', hm⟩ <;>
            obtain ⟨c', hc', h1, h2, hb'⟩ := h.sound _ hm
          · exact ⟨c', hsub c' hc', by rw [h1, h2]; exact hm, .inl h1, ha c' hc', hb'⟩
          · exact ⟨c', hsub c' hc', by rw [h1, h2]; exact hm, .inr ⟨h0, h2⟩, ha c' hc', hb'⟩
        · rw [hb] at hnb; cases hnb
  · -- `(a.pred, a.ref)` appended: both partners were free
    rw [naiveSkip_iff, not_or, not_exists, not_and, not_exists] at hskip
    refine ⟨LMap.keys_nodup_concat.2 ⟨h.functional, hskip.1⟩,
      fun h0 => LMap.vals_nodup_concat.2 ⟨h.injective h0, hskip.2 h0⟩, fun e he => ?_,
      fun c hc hb hnot => ?_⟩
    · rcases List.mem_append.1 he with he | he
      · obtain ⟨c, hc, h'⟩ := h.sound e he; exact ⟨c, hsub c hc, h'⟩
      · rw [List.mem_singleton] at he; subst he
        exact ⟨a, List.mem_append_right _ (List.mem_singleton_self a), rfl, rfl, hb⟩
    · rw [List.mem_append, not_or, List.mem_singleton] at hnot
      rcases List.mem_append.1 hc with hc | hc
      · obtain ⟨c', hc', h1, h'⟩ := h.best c hc hb hnot.1
        exact ⟨c', hsub c' hc', List.mem_append_left _ h1, h'⟩
      · rw [List.mem_singleton] at hc; subst hc; exact absurd rfl hnot.2

variable (le dec thr m2o)

/-- everything C03 says about the loop -/
theorem naiveLoop_inv {R : Cand S → Cand S → Prop} {cs : List (Cand S)} (hcs : cs.Pairwise R) :
    NaiveInv le dec thr m2o R cs (naiveLoop le dec thr m2o cs) :=
  foldl_sorted_inv _ (NaiveInv le dec thr m2o R) hcs
    ⟨List.nodup_nil, fun _ => List.nodup_nil, fun _ h => (nomatch h), fun _ h => (nomatch h)⟩
    (fun _ a _ _ ha h => h.step a ha)

/-- order-independent part -/
theorem naiveLoop_inv' (cs : List (Cand S)) :
    NaiveInv le dec thr m2o (fun _ _ => True) cs (naiveLoop le dec thr m2o cs) :=
  naiveLoop_inv le dec thr m2o (List.pairwise_of_forall fun _ _ => trivial)

end

/-! ### the exception path, prefixes -/
section
variable {S : Type} (le : S → S → Bool) (dec : Bool) (thr : S) (m2o : Bool)

theorem naiveStepE_eq (m : LMap) (c : Cand S) :
    naiveStepE le dec thr m2o m c = .ok (naiveStep le dec thr m2o m c) := by
  unfold naiveStepE naiveStep
  by_cases hs : naiveSkip m2o m c.pred c.ref = true
  · simp [hs]
  · -- not skipped: the prediction is no key, so `add_labelmap_entry` appends
    have : m.lookup c.pred = none :=
      LMap.lookup_eq_none.2 (LMap.containsPred_eq_false.2 fun r h => hs ((naiveSkip_iff m2o).2 (.inl ⟨r, h⟩)))
    simp only [hs, LMap.add, this]; exact (apply_ite _ _ _ _).symm

theorem naiveFoldE_eq (cs : List (Cand S)) (m : LMap) :
    cs.foldlM (naiveStepE le dec thr m2o) m = .ok (cs.foldl (naiveStep le dec thr m2o) m) := by
  induction cs generalizing m with
  | nil => rfl
  | cons c cs ih =>
    rw [List.foldlM_cons, naiveStepE_eq, List.foldl_cons]
    exact ih _

theorem naiveFold_prefix (cs : List (Cand S)) (m : LMap) :
    m <+: cs.foldl (naiveStep le dec thr m2o) m :=
  foldl_sorted_inv (R := fun _ _ => True) _ (fun _ m' => m <+: m')
    (List.pairwise_of_forall fun _ _ => trivial) (List.prefix_refl m) fun _ a st _ _ h => h.trans <| by
      rcases naiveStep_cases le dec thr m2o st a with ⟨e, _⟩ | ⟨e, _⟩ <;> rw [e]
      · exact List.prefix_refl _
      · exact List.prefix_append _ _

theorem naiveFold_none (cs : List (Cand S)) (m : LMap)
    (h : ∀ c ∈ cs, beats le dec c.score thr = false) :
    cs.foldl (naiveStep le dec thr m2o) m = m :=
  foldl_sorted_inv (R := fun _ _ => True) _ (fun _ m' => m' = m)
    (List.pairwise_of_forall fun _ _ => trivial) rfl fun _ a st ha _ e => by
      subst e; unfold naiveStep; simp [h a ha]

end

end Panoptica
