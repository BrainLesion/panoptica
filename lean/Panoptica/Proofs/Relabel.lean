/- helper lemmas for C04 (relabelling) -/
import Panoptica.Proofs.Basic
import Panoptica.Proofs.LMap
namespace Panoptica

/-! ### `applyMap` is `lookup` with the identity as default -/

theorem applyMap_of_lookup {m : LMap} {x r : Lab} (h : m.lookup x = some r) : applyMap m x = r := by
  rw [applyMap_eq_lookup, h]; rfl

theorem applyMap_of_not_key {m : LMap} {x : Lab} (h : m.containsPred x = false) : applyMap m x = x := by
  rw [applyMap_eq_lookup, LMap.lookup_eq_none.2 h]; rfl

/-- a key is sent to one of its values -/
theorem applyMap_mem {m : LMap} {x : Lab} (h : m.containsPred x = true) : (x, applyMap m x) ∈ m := by
  obtain ⟨r, hr⟩ := Option.isSome_iff_exists.1 ((LMap.lookup_isSome m x).trans h)
  rw [applyMap_of_lookup hr]; exact LMap.mem_of_lookup hr

/-! ### `assignFresh` -/

theorem mem_assignFresh (l : List Lab) (c : Nat) (e : Lab × Lab) (h : e ∈ assignFresh l c) :
    e.1 ∈ l ∧ c ≤ e.2 ∧ e.2 < c + l.length := by
  induction l generalizing c with
  | nil => simp [assignFresh] at h
  | cons p ps ih =>
    simp only [assignFresh, List.mem_cons] at h
    rcases h with rfl | h
    · simp
    · have := ih (c + 1) h
      simp only [List.mem_cons, List.length_cons]
      refine ⟨Or.inr this.1, by grind, by grind⟩

theorem containsPred_assignFresh (l : List Lab) (c : Nat) (p : Lab) (h : p ∈ l) :
    LMap.containsPred (assignFresh l c) p = true := by
  induction l generalizing c with
  | nil => simp at h
  | cons q qs ih =>
    rw [LMap.containsPred_iff]
    rcases List.mem_cons.1 h with rfl | h
    · exact ⟨c, by simp [assignFresh]⟩
    · obtain ⟨r, hr⟩ := LMap.containsPred_iff.1 (ih (c + 1) h)
      exact ⟨r, by simp [assignFresh, hr]⟩

theorem applyMap_assignFresh_bounds (l : List Lab) (c : Nat) (p : Lab) (h : p ∈ l) :
    c ≤ applyMap (assignFresh l c) p ∧ applyMap (assignFresh l c) p < c + l.length :=
  (mem_assignFresh l c _ (applyMap_mem (containsPred_assignFresh l c p h))).2

theorem applyMap_cons_self (p v : Lab) (m : List (Lab × Lab)) : applyMap ((p, v) :: m) p = v := by
  simp [applyMap]

theorem applyMap_cons_ne (k v : Lab) (m : List (Lab × Lab)) (x : Lab) (h : k ≠ x) :
    applyMap ((k, v) :: m) x = applyMap m x := by
  simp [applyMap, h]

theorem applyMap_assignFresh_inj (l : List Lab) (c : Nat) (hnd : l.Nodup) (p q : Lab)
    (hp : p ∈ l) (hq : q ∈ l) (hpq : p ≠ q) :
    applyMap (assignFresh l c) p ≠ applyMap (assignFresh l c) q := by
  induction l generalizing c with
  | nil => simp at hp
  | cons a as ih =>
    have hnd' := List.nodup_cons.1 hnd
    simp only [assignFresh]
    rcases List.mem_cons.1 hp with rfl | hp' <;> rcases List.mem_cons.1 hq with rfl | hq'
    · exact absurd rfl hpq
    · rw [applyMap_cons_self, applyMap_cons_ne _ _ _ _ hpq]
      have := (applyMap_assignFresh_bounds as (c + 1) q hq').1
      grind
    · rw [applyMap_cons_self, applyMap_cons_ne _ _ _ _ (Ne.symm hpq)]
      have := (applyMap_assignFresh_bounds as (c + 1) p hp').1
      grind
    · have h1 : a ≠ p := fun h => hnd'.1 (h ▸ hp')
      have h2 : a ≠ q := fun h => hnd'.1 (h ▸ hq')
      rw [applyMap_cons_ne _ _ _ _ h1, applyMap_cons_ne _ _ _ _ h2]
      exact ih (c + 1) hnd'.2 hp' hq'

/-! ### `fullLabelMap` -/

theorem applyMap_full_matched (lm : LMap) (refLabels predLabels : List Lab) (p r : Lab)
    (h : lm.lookup p = some r) : applyMap (fullLabelMap lm refLabels predLabels) p = r := by
  simp [applyMap_eq_lookup, fullLabelMap, LMap.lookup_append, h]

theorem applyMap_full_unmatched (lm : LMap) (refLabels predLabels : List Lab) (p : Lab)
    (hun : lm.containsPred p = false) :
    applyMap (fullLabelMap lm refLabels predLabels) p =
      applyMap (assignFresh (predLabels.filter (fun p => !lm.containsPred p)) (maxOf refLabels + 1)) p := by
  simp [applyMap_eq_lookup, fullLabelMap, LMap.lookup_append, LMap.lookup_eq_none.2 hun]

theorem mem_missed (lm : LMap) (predLabels : List Lab) (p : Lab) (hp : p ∈ predLabels)
    (hun : lm.containsPred p = false) :
    p ∈ predLabels.filter (fun p => !lm.containsPred p) := by
  simp [List.mem_filter, hp, hun]

theorem mem_fullLabelMap (lm : LMap) (refLabels predLabels : List Lab) (e : Lab × Lab)
    (h : e ∈ fullLabelMap lm refLabels predLabels) :
    e ∈ lm ∨ (e.1 ∈ predLabels ∧ maxOf refLabels + 1 ≤ e.2 ∧
      e.2 < maxOf refLabels + 1 + predLabels.length) := by
  unfold fullLabelMap at h
  simp only [List.mem_append] at h
  rcases h with h | h
  · exact Or.inl h
  · right
    have := mem_assignFresh _ _ e h
    have hl := List.length_filter_le (fun p => !lm.containsPred p) predLabels
    refine ⟨(List.mem_filter.1 this.1).1, this.2.1, by grind⟩

/-! ### dtype width -/

theorem lt_two_pow_smallestUintBits (mx : Nat) (h : mx < 2 ^ 64) : mx < 2 ^ smallestUintBits mx := by
  unfold smallestUintBits
  split
  · omega
  · split
    · omega
    · split
      · omega
      · exact h

theorem mapLabelsBits_exact (bits : Nat) (arr : Flat) (m : List (Lab × Lab))
    (h : ∀ e ∈ m, e.1 < 2 ^ bits ∧ e.2 < 2 ^ bits) :
    mapLabelsBits bits arr m = arr.map (applyMap m) := by
  unfold mapLabelsBits
  simp only
  have : m.map (fun e => (e.1 % 2 ^ bits, e.2 % 2 ^ bits)) = m := by
    conv => rhs; rw [← List.map_id m]
    apply List.map_congr_left
    intro e he
    have := h e he
    simp [Nat.mod_eq_of_lt this.1, Nat.mod_eq_of_lt this.2]
  rw [this]

theorem mapLabels_exact (arrBits : Nat) (arr : Flat) (m : List (Lab × Lab))
    (ha : ∀ x ∈ arr, x < 2 ^ 64) (hm : ∀ e ∈ m, e.1 < 2 ^ 64 ∧ e.2 < 2 ^ 64) :
    mapLabels arrBits arr m = arr.map (applyMap m) := by
  unfold mapLabels
  apply mapLabelsBits_exact
  intro e he
  unfold mapBits
  simp only
  generalize hmx : max (maxOf arr) (max (maxOf (m.map (·.1))) (maxOf (m.map (·.2)))) = mx
  have h1 : maxOf arr < 2 ^ 64 := maxOf_lt _ _ (by omega) ha
  have h2 : maxOf (m.map (·.1)) < 2 ^ 64 := by
    apply maxOf_lt _ _ (by omega)
    intro x hx
    obtain ⟨e', he', rfl⟩ := List.mem_map.1 hx
    exact (hm e' he').1
  have h3 : maxOf (m.map (·.2)) < 2 ^ 64 := by
    apply maxOf_lt _ _ (by omega)
    intro x hx
    obtain ⟨e', he', rfl⟩ := List.mem_map.1 hx
    exact (hm e' he').2
  have hmx64 : mx < 2 ^ 64 := by omega
  have hlt := lt_two_pow_smallestUintBits mx hmx64
  have e1 : e.1 ≤ maxOf (m.map (·.1)) := le_maxOf _ _ (List.mem_map.2 ⟨e, he, rfl⟩)
  have e2 : e.2 ≤ maxOf (m.map (·.2)) := le_maxOf _ _ (List.mem_map.2 ⟨e, he, rfl⟩)
  have hpow : 2 ^ smallestUintBits mx ≤ 2 ^ max arrBits (smallestUintBits mx) :=
    Nat.pow_le_pow_right (by omega) (Nat.le_max_right _ _)
  constructor <;> grind

end Panoptica
