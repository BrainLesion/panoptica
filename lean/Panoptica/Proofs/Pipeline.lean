/- helper lemmas for C01 (composition of the pipeline stages) -/
import Panoptica.Proofs.Basic
import Panoptica.Proofs.Matching
import Panoptica.Proofs.Overlap
import Panoptica.Proofs.Result
import Panoptica.Model.Pipeline
namespace Panoptica

/-- every evaluated metric is found in a dictionary built by mapping over the metric list -/
theorem find?_map_key_isSome {V : Type} (f : Metric → V) (ms : List Metric) (m : Metric) (hm : m ∈ ms) :
    ((ms.map (fun m => (m, f m))).find? (fun e => e.1 == m)).isSome = true := by
  rw [List.find?_isSome]
  exact ⟨(m, f m), List.mem_map.2 ⟨m, hm, rfl⟩, by simp⟩

theorem evaluateInstance_full (ms : List Metric) (pred ref : Arr) (l : Lab) (m : Metric) (hm : m ∈ ms) :
    ((evaluateInstance ms pred ref l).find? (fun e => e.1 == m)).isSome = true :=
  find?_map_key_isSome _ ms m hm

theorem length_eq_zero_beq (l : List Lab) : (l.length == 0) = true ↔ l = [] := by
  cases l <;> simp

theorem counts_nonzero {l₁ l₂ : List Lab} (h₁ : l₁ ≠ []) (h₂ : l₂ ≠ []) :
    (l₁.length == 0 || l₂.length == 0) = false := by
  simp [h₁, h₂]

/-- the zero branch of `evalPhase` -/
theorem evalPhase_of_zero (cfg : Config) (pred ref : Arr) (lm : Option LMap) (mp : Option Flat)
    (h0 : labelsOf pred.data = [] ∨ labelsOf ref.data = []) :
    evalPhase cfg pred ref lm mp =
      .ok { nRef := (labelsOf ref.data).length, nPred := (labelsOf pred.data).length, tp := 0,
            lists := cfg.evalMetrics.map (fun m => (m, [])), matchedPred := mp, lmap := lm } := by
  unfold evalPhase
  have : ((labelsOf pred.data).length == 0 || (labelsOf ref.data).length == 0) = true := by
    rcases h0 with h | h <;> simp [h]
  simp only [this, if_true]

/-- the evaluating branch of `evalPhase` -/
theorem evalPhase_of_nonzero (cfg : Config) (pred ref : Arr) (lm : Option LMap) (mp : Option Flat)
    (hp : labelsOf pred.data ≠ []) (hr : labelsOf ref.data ≠ []) :
    evalPhase cfg pred ref lm mp =
      .ok { nRef := (labelsOf ref.data).length, nPred := (labelsOf pred.data).length,
            tp := (evalMatched Score.le cfg.evalMetrics cfg.decision
                    ((matchedInstances pred.data ref.data).map (evaluateInstance cfg.evalMetrics pred ref))).1,
            lists := (evalMatched Score.le cfg.evalMetrics cfg.decision
                    ((matchedInstances pred.data ref.data).map (evaluateInstance cfg.evalMetrics pred ref))).2,
            matchedPred := mp, lmap := lm } := by
  unfold evalPhase
  simp only [counts_nonzero hp hr]
  rfl

/-- the matching branch of `matchPhase` -/
theorem matchPhase_of_nonzero (cfg : Config) (bits : Nat) (pred ref : Arr) (nPred nRef : Nat) (mc : MatcherCfg)
    (lm : LMap) (hn : (nPred == 0 || nRef == 0) = false) (hm : cfg.matcher = some mc)
    (hrun : runMatcher mc pred ref = .ok lm) :
    matchPhase cfg bits pred ref nPred nRef =
      evalPhase cfg { shape := pred.shape,
                      data := mapInstanceLabels bits pred.data (labelsOf ref.data) (labelsOf pred.data) lm }
        ref (some lm)
        (some (mapInstanceLabels bits pred.data (labelsOf ref.data) (labelsOf pred.data) lm)) := by
  unfold matchPhase
  simp only [hn, hm, hrun]
  rfl

/-- unmatched input goes to the matching phase with the label counts -/
theorem pipeline_unmatched (cfg : Config) (bits : Nat) (pred ref : Arr) (hin : cfg.input = .UNMATCHED) :
    pipeline cfg bits pred ref =
      matchPhase cfg bits pred ref (labelsOf pred.data).length (labelsOf ref.data).length := by
  unfold pipeline; rw [hin]

theorem matchPhase_zero (cfg : Config) (bits : Nat) (p r : Arr) (np nr : Nat) (h0 : np = 0 ∨ nr = 0) :
    matchPhase cfg bits p r np nr =
      .ok { nRef := nr, nPred := np, tp := 0, lists := cfg.evalMetrics.map (fun m => (m, [])),
            matchedPred := none, lmap := none } := by
  unfold matchPhase
  have : (np == 0 || nr == 0) = true := by
    rcases h0 with h | h <;> simp [h]
  simp only [this, if_true]

theorem matchPhase_none (cfg : Config) (bits : Nat) (p r : Arr) (np nr : Nat)
    (hn : (np == 0 || nr == 0) = false) (hm : cfg.matcher = none) :
    matchPhase cfg bits p r np nr =
      .error "AssertionError: Got UnmatchedInstancePair but not InstanceMatchingAlgorithm" := by
  unfold matchPhase
  simp only [hn, hm]
  rfl

end Panoptica
