/- helper lemmas for C18 / C20 (header round trip, alignment, summaries) -/
import Panoptica.Model.Table
import Mathlib.Algebra.Order.Ring.Rat
namespace Panoptica.Tbl

/-! ### header round trip -/

theorem rsplitDash_headerCell (g m : Str) (hm : '-' ∉ m) : rsplitDash (headerCell g m) = (g, m) := by
  induction g with
  | nil =>
    simp [headerCell, rsplitDash, hm]
  | cons c g ih =>
    have hc : (g ++ '-' :: m).contains '-' = true := by simp
    simp only [headerCell, List.cons_append] at ih ⊢
    simp only [rsplitDash, ih, hc, if_true]

theorem keys_mkHeader {F : Type} (groups keys : List Str) (hk : ∀ m ∈ keys, '-' ∉ m)
    (rows : List (Str × List (Option (WVal F)))) :
    (load (mkHeader groups keys) rows).keys = groups.flatMap (fun g => keys.map (fun m => (g, m))) := by
  simp only [load, mkHeader, List.tail_cons, List.map_flatMap, List.map_map]
  congr 1
  funext g
  apply List.map_congr_left
  intro m hm
  exact rsplitDash_headerCell g m (hk m hm)

/-! ### index lookups -/

theorem getElem?_of_idxOf? {α : Type} [BEq α] [LawfulBEq α] {l : List α} {a : α} {i : Nat}
    (h : l.idxOf? a = some i) : l[i]? = some a := by
  obtain ⟨hi, ha, _⟩ := List.idxOf?_eq_some_iff.1 h
  rw [List.getElem?_eq_getElem hi, ha]

theorem exists_idxOf?_of_mem {α : Type} [BEq α] [LawfulBEq α] {l : List α} {a : α}
    (h : a ∈ l) : ∃ i, l.idxOf? a = some i := by
  cases hx : l.idxOf? a with
  | none => exact absurd h (List.idxOf?_eq_none_iff.1 hx)
  | some i => exact ⟨i, rfl⟩

theorem getElem?_map_of_idxOf? {α β : Type} [BEq α] [LawfulBEq α] {l : List α} {a : α} {i : Nat}
    (f : α → β) (h : l.idxOf? a = some i) : (l.map f)[i]? = some (f a) := by
  rw [List.getElem?_map, getElem?_of_idxOf? h]; rfl

theorem row_eq_map {β : Type} (groups keys : List Str) (f : Str → Str → β) :
    groups.flatMap (fun g => keys.map (fun m => f g m))
      = (groups.flatMap (fun g => keys.map (fun m => (g, m)))).map (fun p => f p.1 p.2) := by
  simp only [List.map_flatMap, List.map_map]
  rfl

theorem get_aligned {F : Type} (groups keys subjects : List Str) (res : Str → Str → Str → Option (WVal F))
    (hk : ∀ m ∈ keys, '-' ∉ m)
    (s g m : Str) (hsm : s ∈ subjects) (hgm : g ∈ groups) (hmm : m ∈ keys) :
    (load (mkHeader groups keys) (subjects.map (fun s => mkRow groups keys s (res s)))).get s g m
      = some (classify (res s g m)) := by
  have hkeys := keys_mkHeader groups keys hk (subjects.map (fun s => mkRow groups keys s (res s)))
  have hsub : (load (mkHeader groups keys) (subjects.map (fun s => mkRow groups keys s (res s)))).subjects
      = subjects := by
    simp only [load, List.map_map]
    conv => rhs; rw [← List.map_id subjects]
    rfl
  have hcols : (load (mkHeader groups keys) (subjects.map (fun s => mkRow groups keys s (res s)))).cols
      = subjects.map (fun s => (groups.flatMap (fun g => keys.map (fun m => (g, m)))).map
          (fun p => classify (res s p.1 p.2))) := by
    simp only [load, List.map_map]
    apply List.map_congr_left
    intro s _
    simp only [Function.comp, mkRow]
    rw [row_eq_map groups keys (res s), List.map_map]
    rfl
  obtain ⟨i, hi⟩ := exists_idxOf?_of_mem hsm
  have hmem : (g, m) ∈ groups.flatMap (fun g => keys.map (fun m => (g, m))) := by
    simp only [List.mem_flatMap, List.mem_map]
    exact ⟨g, hgm, m, hmm, rfl⟩
  obtain ⟨j, hj⟩ := exists_idxOf?_of_mem hmem
  unfold Loaded.get
  rw [hsub, hkeys, hcols, hi, hj]
  simp only
  rw [getElem?_map_of_idxOf? _ hi]
  simp only [Option.bind_some]
  rw [getElem?_map_of_idxOf? _ hj]

theorem length_row {β γ : Type} (groups keys : List Str) (f : Str → Str → β) (h : Str → Str → γ) :
    (groups.flatMap (fun g => keys.map (fun m => f g m))).length
      = (groups.flatMap (fun g => keys.map (fun m => h g m))).length := by
  induction groups with
  | nil => rfl
  | cons g gs ih => simp only [List.flatMap_cons, List.length_append, List.length_map, ih]

/-! ### summaries -/

theorem finite_append_none (l₁ l₂ : List (Option Rat)) :
    finite (l₁ ++ none :: l₂) = finite (l₁ ++ l₂) := by
  simp only [finite, List.filterMap_append, List.filterMap_cons, id]

theorem finite_perm {l₁ l₂ : List (Option Rat)} (h : l₁.Perm l₂) : (finite l₁).Perm (finite l₂) :=
  h.filterMap _

/-- sum with accumulator -/
theorem foldl_add_acc (l : List Rat) (a : Rat) : l.foldl (· + ·) a = a + l.foldl (· + ·) 0 := by
  induction l generalizing a with
  | nil => simp
  | cons x xs ih =>
    simp only [List.foldl_cons]
    rw [ih (a + x), ih (0 + x), zero_add, add_assoc]

theorem sumQ_cons (x : Rat) (l : List Rat) : sumQ (x :: l) = x + sumQ l := by
  simp only [sumQ, List.foldl_cons]
  rw [foldl_add_acc, zero_add]

theorem sumQ_perm {l₁ l₂ : List Rat} (h : l₁.Perm l₂) : sumQ l₁ = sumQ l₂ := by
  induction h with
  | nil => rfl
  | cons x _ ih => rw [sumQ_cons, sumQ_cons, ih]
  | swap x y l => rw [sumQ_cons, sumQ_cons, sumQ_cons, sumQ_cons, add_left_comm]
  | trans _ _ ih₁ ih₂ => exact ih₁.trans ih₂

/-- the running best of a list under a strict preference `r` ("`r b a`: `b` replaces `a`") whose negation
    is transitive is an element that nothing in the list is preferred to; `minQ` is the case `r = (· < ·)`,
    `maxQ` the case `r = (· > ·)` -/
theorem foldl_pick_spec (r : Rat → Rat → Prop) [DecidableRel r] (hasymm : ∀ a b, r a b → ¬ r b a)
    (htrans : ∀ a b c, ¬ r a b → ¬ r b c → ¬ r a c) (l : List Rat) (a : Rat) :
    l.foldl (fun a b => if r b a then b else a) a ∈ a :: l ∧
    ∀ x ∈ a :: l, ¬ r x (l.foldl (fun a b => if r b a then b else a) a) := by
  induction l generalizing a with
  | nil => simpa using fun h => hasymm a a h h
  | cons y ys ih =>
    rw [List.foldl_cons]
    by_cases h : r y a
    · rw [if_pos h]
      obtain ⟨h1, h2⟩ := ih y
      refine ⟨List.mem_cons_of_mem _ h1, fun x hx => ?_⟩
      rcases List.mem_cons.1 hx with rfl | hx
      · exact htrans _ _ _ (hasymm _ _ h) (h2 y List.mem_cons_self)
      · exact h2 x hx
    · rw [if_neg h]
      obtain ⟨h1, h2⟩ := ih a
      refine ⟨?_, fun x hx => ?_⟩
      · rcases List.mem_cons.1 h1 with h1 | h1
        · rw [h1]; exact List.mem_cons_self
        · exact List.mem_cons_of_mem _ (List.mem_cons_of_mem _ h1)
      · rcases List.mem_cons.1 hx with rfl | hx
        · exact h2 _ List.mem_cons_self
        · rcases List.mem_cons.1 hx with rfl | hx
          · exact htrans _ _ _ h (h2 _ List.mem_cons_self)
          · exact h2 x (List.mem_cons_of_mem _ hx)

theorem minQ_spec (l : List Rat) (hne : l ≠ []) : minQ l ∈ l ∧ ∀ x ∈ l, minQ l ≤ x := by
  cases l with
  | nil => exact absurd rfl hne
  | cons a l =>
    simpa only [minQ, not_lt] using foldl_pick_spec (· < ·) (fun _ _ => lt_asymm)
      (fun _ _ _ h1 h2 => not_lt.2 ((not_lt.1 h2).trans (not_lt.1 h1))) l a

theorem maxQ_spec (l : List Rat) (hne : l ≠ []) : maxQ l ∈ l ∧ ∀ x ∈ l, x ≤ maxQ l := by
  cases l with
  | nil => exact absurd rfl hne
  | cons a l =>
    simpa only [maxQ, gt_iff_lt, not_lt] using foldl_pick_spec (· > ·) (fun _ _ => lt_asymm)
      (fun _ _ _ h1 h2 => not_lt.2 ((not_lt.1 h1).trans (not_lt.1 h2))) l a
theorem minQ_perm {l₁ l₂ : List Rat} (h : l₁.Perm l₂) : minQ l₁ = minQ l₂ := by
  by_cases hne : l₁ = []
  · subst hne; rw [h.nil_eq]
  · have hne2 : l₂ ≠ [] := fun e => hne (by subst e; exact h.eq_nil)
    obtain ⟨m1, b1⟩ := minQ_spec l₁ hne
    obtain ⟨m2, b2⟩ := minQ_spec l₂ hne2
    exact le_antisymm (b1 _ (h.mem_iff.2 m2)) (b2 _ (h.mem_iff.1 m1))

theorem maxQ_perm {l₁ l₂ : List Rat} (h : l₁.Perm l₂) : maxQ l₁ = maxQ l₂ := by
  by_cases hne : l₁ = []
  · subst hne; rw [h.nil_eq]
  · have hne2 : l₂ ≠ [] := fun e => hne (by subst e; exact h.eq_nil)
    obtain ⟨m1, b1⟩ := maxQ_spec l₁ hne
    obtain ⟨m2, b2⟩ := maxQ_spec l₂ hne2
    exact le_antisymm (b2 _ (h.mem_iff.1 m1)) (b1 _ (h.mem_iff.2 m2))

theorem summarize_perm {l₁ l₂ : List Rat} (h : l₁.Perm l₂) : summarize l₁ = summarize l₂ := by
  have hlen : l₁.length = l₂.length := h.length_eq
  have hsum : sumQ l₁ = sumQ l₂ := sumQ_perm h
  unfold summarize
  simp only [hlen, hsum, minQ_perm h, maxQ_perm h]
  congr 2
  exact sumQ_perm (h.map _)

end Panoptica.Tbl
