/-
  Extraction obligation for `config_dir_by_name` (utils/filepath.py), as read from /repo's current source: for EVERY name the
  extracted expression evaluates to the model's `byName` (the name itself when it already ends in ".yaml", the name with
  ".yaml" appended otherwise), the directory is the package directory, and the pair (directory, name) is returned.
  What `byName` guarantees for all names is in Properties/C19Names.lean.
-/
import Panoptica.Generated.NameCode
set_option linter.unusedSimpArgs false
namespace Panoptica.Extracted
open Panoptica.NameCode Panoptica.Generated.NameCode

theorem by_name_ok (n : List Char) : byNameCode.eval n = some (byName n) := by
  have e : ".yaml".toList = ext := rfl
  cases h : ext.isSuffixOf n <;>
    simp only [byNameCode, NExpr.eval, NCond.eval, byName, e, h, Option.map_some, Bool.not_true, Bool.not_false,
      Bool.false_eq_true, if_true, if_false, ↓reduceIte]

theorem by_name_glue_ok :
    directoryIs = "two levels above this file (the package directory)" ∧ returnsPair = "(directory, name)" := ⟨rfl, rfl⟩

end Panoptica.Extracted
