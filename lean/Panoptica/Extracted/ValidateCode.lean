/-
  Extraction obligations for the input validation of the processing pairs, as read from /repo's current source: in all 128
  situations `_check_array_integrity` accepts exactly the pairs the model accepts (two arrays of one shape and one dtype, of the
  expected kind when a kind is expected); semantic pairs expect any integer dtype, both instance pairs an unsigned one; the
  pair constructor validates before it stores anything. This is what the harness's "rejected call" cases assume (C15) and the
  dtype premise of the renaming / relabelling theorems (C09, C04: instance maps are unsigned).
-/
import Panoptica.Generated.ValidateCode
namespace Panoptica.Extracted
open Panoptica.VCode Panoptica.Generated.ValidateCode

theorem validation_ok : ∀ f ∈ allFacts, accepts requirements f = some (modelAccepts f) := by decide +kernel

theorem allFacts_complete (f : Facts) : f ∈ allFacts := by
  have hb : ∀ b : Bool, b ∈ [true, false] := by decide
  obtain ⟨a, b, c, d, e, g, h⟩ := f
  simp only [allFacts, List.mem_flatMap, List.mem_map]
  exact ⟨a, hb a, b, hb b, c, hb c, d, hb d, e, hb e, g, hb g, h, hb h, rfl⟩

/-- hence for every call -/
theorem validation_all (f : Facts) : accepts requirements f = some (modelAccepts f) :=
  validation_ok f (allFacts_complete f)

theorem expected_dtypes_ok :
    semanticExpects = .anyInteger ∧ unmatchedExpects = .unsignedInteger ∧ matchedExpects = .unsignedInteger := ⟨rfl, rfl, rfl⟩

theorem validates_first_ok : constructorStartsWith = "validates (prediction, reference, expected dtype) first" := rfl

end Panoptica.Extracted
