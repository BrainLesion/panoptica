/-
  Extraction obligation for C08 / C13: the constructor of `MetricZeroTPEdgeCaseHandling`
  (utils/edge_case_handling.py), as read from /repo's current source, fills each of the four
  zero-TP scenarios with the scenario's own argument when one was given and with
  `default_result` otherwise — so a handler written the short way (a default plus the scenarios
  that differ) is the handler the theorems of C08 and C13 are about.
-/
import Panoptica.Generated.Config
namespace Panoptica.Extracted
open Panoptica.Cfg

/-- what the constructor stores, from the regenerated descriptor -/
def handlerStores : List (String × Store) :=
  ((Panoptica.Generated.classes.find? (fun d => d.name == "MetricZeroTPEdgeCaseHandling")).map (·.stores)).getD []

/-- table key of a scenario and the constructor argument that configures it -/
def scenarioParams : List (String × String) :=
  [("edgecase_dict[EMPTY_PRED]", "empty_prediction_result"), ("edgecase_dict[EMPTY_REF]", "empty_reference_result"),
   ("edgecase_dict[NO_INSTANCES]", "no_instances_result"), ("edgecase_dict[NORMAL]", "normal")]

theorem handler_ctor_ok :
    ∀ e ∈ scenarioParams, lookup handlerStores e.1 = some (Store.ifNoneParam e.2 "default_result") := by decide +kernel

/-- … read semantically: the value stored for a scenario, for any argument assignment -/
theorem handler_entry_sem {V : Type} (S : Sem V) (args : String → V) :
    ∀ e ∈ scenarioParams, (lookup handlerStores e.1).map (evalStore S args) =
      some (if S.isNone (args e.2) then args "default_result" else args e.2) := by
  intro e he
  rw [handler_ctor_ok e he]
  rfl

/-- exactly the four scenarios fall back to `default_result` (in whatever order the constructor fills them);
    nothing else in the constructor does -/
theorem handler_keys_ok :
    ((handlerStores.filter (fun e => match e.2 with | .ifNoneParam _ _ => true | _ => false)).map (·.1)).isPerm
      (scenarioParams.map (·.1)) = true := by decide +kernel

end Panoptica.Extracted
