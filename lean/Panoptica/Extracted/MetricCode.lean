/-
  Extraction obligations (semantic) for the three count-based metric helpers, as read from /repo's current
  source: for all counts the extracted bodies evaluate to the closed forms of `dice`, `iou`, `rvd`
  (Model/Metrics.lean) — Dice `2I / (R + P)` with 0 for two empty masks; IoU `I / U` with 0 for an empty union;
  RVD `(P − R) / R` with 0 for two empty masks and a ZeroDivisionError (`none`) for an empty reference against a
  non-empty prediction.
-/
import Panoptica.Generated.MetricCode
import Panoptica.Model.Metrics
import Panoptica.Proofs.MetricCode
namespace Panoptica.Extracted
open Panoptica.MetricCode Panoptica.Generated.MetricCode

theorem dice_body_ok (I U R P : Nat) :
    diceBody.eval (envM I U R P) =
      some (if R = 0 ∧ P = 0 then 0 else (2 * (I : Rat)) / ((R : Rat) + (P : Rat))) := by
  by_cases hR : R = 0 <;> by_cases hP : P = 0 <;> metric_close diceBody

theorem iou_body_ok (I U R P : Nat) :
    iouBody.eval (envM I U R P) = some (if U = 0 then 0 else (I : Rat) / (U : Rat)) := by
  by_cases h : U = 0 <;> metric_close iouBody

theorem rvd_body_ok (I U R P : Nat) :
    rvdBody.eval (envM I U R P) =
      (if R = 0 ∧ P = 0 then some 0 else if R = 0 then none else some (((P : Rat) - (R : Rat)) / (R : Rat))) := by
  by_cases hR : R = 0 <;> by_cases hP : P = 0 <;> metric_close rvdBody

/-- lifted to the model: `dice`, `iou`, `rvd` on flat masks are the extracted bodies at the masks' counts -/
theorem model_dice_is_extracted (ref pred : Panoptica.Flat) :
    some (Panoptica.dice ref pred) =
      diceBody.eval (envM (Panoptica.interCount ref pred) (Panoptica.unionCount ref pred) (Panoptica.sumVals ref) (Panoptica.sumVals pred)) := by
  rw [dice_body_ok]
  simp only [Panoptica.dice]
  by_cases hR : Panoptica.sumVals ref = 0 <;> by_cases hP : Panoptica.sumVals pred = 0 <;>
    simp [hR, hP]

theorem model_iou_is_extracted (ref pred : Panoptica.Flat) :
    some (Panoptica.iou ref pred) =
      iouBody.eval (envM (Panoptica.interCount ref pred) (Panoptica.unionCount ref pred) (Panoptica.sumVals ref) (Panoptica.sumVals pred)) := by
  rw [iou_body_ok]
  simp only [Panoptica.iou]
  by_cases hU : Panoptica.unionCount ref pred = 0 <;> simp [hU]

theorem model_rvd_is_extracted (ref pred : Panoptica.Flat) :
    (match Panoptica.rvd ref pred with | .ok x => some x | .error _ => none) =
      rvdBody.eval (envM (Panoptica.interCount ref pred) (Panoptica.unionCount ref pred) (Panoptica.sumVals ref) (Panoptica.sumVals pred)) := by
  rw [rvd_body_ok]
  simp only [Panoptica.rvd]
  by_cases hR : Panoptica.sumVals ref = 0 <;> by_cases hP : Panoptica.sumVals pred = 0 <;>
    simp [hR, hP]

end Panoptica.Extracted
