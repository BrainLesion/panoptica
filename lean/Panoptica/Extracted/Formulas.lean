/-
  Extraction obligations (semantic): the derived quantities of `PanopticaResult`, as read from
  /repo's current source, evaluate to the model's functions for every triple of counts.
-/
import Panoptica.Generated.Formulas
import Mathlib.Tactic.Ring
import Mathlib.Tactic.Push
import Mathlib.Data.Rat.Defs
set_option linter.unusedSimpArgs false
namespace Panoptica.Extracted
open Panoptica Panoptica.Formulas

theorem fp_ok (r : ResultIn) :
    Generated.fpExpr.eval r.tp r.nPred r.nRef = some (.num ((r.fp : Int) : Rat)) := by
  simp [Generated.fpExpr, VExpr.eval, AExpr.eval, ResultIn.fp]

theorem fn_ok (r : ResultIn) :
    Generated.fnExpr.eval r.tp r.nPred r.nRef = some (.num ((r.fn : Int) : Rat)) := by
  simp [Generated.fnExpr, VExpr.eval, AExpr.eval, ResultIn.fn]

theorem prec_ok (r : ResultIn) :
    Generated.precExpr.eval r.tp r.nPred r.nRef = r.precision.map Val.num := by
  -- both denominators are `tp + fp = nPred`
  by_cases h0 : r.nPred = 0 <;>
    simp [Generated.precExpr, VExpr.eval, AExpr.eval, ResultIn.precision, ResultIn.fp, h0]

theorem rec_ok (r : ResultIn) :
    Generated.recExpr.eval r.tp r.nPred r.nRef = r.recall.map Val.num := by
  by_cases h0 : r.nRef = 0 <;>
    simp [Generated.recExpr, VExpr.eval, AExpr.eval, ResultIn.recall, ResultIn.fn, h0]
/-- `rq`: the zero-tp guard, and `tp / (tp + fp/2 + fn/2)` = `2tp / (2tp + fp + fn)` otherwise
    (Python raises ZeroDivisionError where the denominator vanishes; the model has no value there) -/
theorem rq_ok (r : ResultIn) (hd : r.tp = 0 ∨ (2 * (r.tp : Int) + r.fp + r.fn) ≠ 0) :
    Generated.rqExpr.eval r.tp r.nPred r.nRef = some r.rq := by
  obtain ⟨nRef, nPred, tp, lists, handler⟩ := r
  simp only [Generated.rqExpr, VExpr.eval, BCond.eval, AExpr.eval, ResultIn.rq, ResultIn.fp, ResultIn.fn] at hd ⊢
  rcases Nat.eq_zero_or_pos tp with rfl | ht
  · by_cases hs : 0 < nPred + nRef
    · have : (0 : Rat) < (nPred : Rat) + (nRef : Rat) := by exact_mod_cast hs
      simp [hs, this]
    · have : ¬ (0 : Rat) < (nPred : Rat) + (nRef : Rat) := by exact_mod_cast hs
      simp [hs, this]
  · have hq : (((2 * (tp : Int) + ((nPred : Int) - tp) + ((nRef : Int) - tp) : Int)) : Rat) ≠ 0 := by
      exact_mod_cast hd.resolve_left ht.ne'
    have htq : ((tp : Rat) == 0) = false := by simpa using ht.ne'
    -- the source divides by `tp + fp/2 + fn/2`, half the model's denominator
    have key : (tp : Rat) + 2⁻¹ * ((nPred : Rat) - tp) + 2⁻¹ * ((nRef : Rat) - tp)
        = (2 * (tp : Rat) + ((nPred : Rat) - tp) + ((nRef : Rat) - tp)) / 2 := by ring
    push_cast at hq
    simp [ht.ne', htq, key, hq]
    rw [div_div_eq_mul_div, mul_comm]
/-- which list metric and which mode every `sq*` reads -/
theorem readers_ok : Generated.listReaders =
    [("sq", "IOU", "AVG"), ("sq_assd", "ASSD", "AVG"), ("sq_assd_std", "ASSD", "STD"),
     ("sq_cldsc", "clDSC", "AVG"), ("sq_cldsc_std", "clDSC", "STD"), ("sq_dsc", "DSC", "AVG"),
     ("sq_dsc_std", "DSC", "STD"), ("sq_rvd", "RVD", "AVG"), ("sq_rvd_std", "RVD", "STD"),
     ("sq_std", "IOU", "STD")] := rfl

/-- the segmentation-quality field that belongs to a `pq*` name -/
def sqFieldOf (pq : String) : String := "sq" ++ (pq.drop 2).toString

/-- every `pq*` is the float product of its own `sq*` field with `rq`, whatever their values
    (numbers, NaN, ±inf, None) -/
theorem products_ok (fieldOf : String → RVal) (rq : RVal) :
    ∀ p ∈ Generated.products, p.2.eval fieldOf rq = mulVal (fieldOf (sqFieldOf p.1)) rq := by
  intro p hp
  simp only [Generated.products, List.mem_cons, List.mem_nil_iff, or_false] at hp
  rcases hp with rfl | rfl | rfl <;> simp [PExpr.eval, sqFieldOf] <;> rfl

theorem products_names : Generated.products.map (·.1) = ["pq", "pq_cldsc", "pq_dsc"] := rfl

end Panoptica.Extracted
