/-
  Extraction obligations (semantic) for the crop, as read from /repo's current source: the slice
  `_get_bbox_nd` builds for one axis starts at `lo - pad` (stopping at zero) and stops at
  `min (hi + pad) n + 1` — exactly the pair `bboxNd` of Model/Geometry.lean puts into the box (numpy then
  clips the stop at `n`, `Box.clip`) — so every non-zero index of the axis lies inside and the stop
  never passes the axis by more than the one position numpy clips; `_get_paired_crop` takes the box of
  the union of the two foregrounds with padding 2 (the whole array when both are empty).
-/
import Panoptica.Generated.Bbox
import Panoptica.Model.Geometry
namespace Panoptica.Extracted
open Panoptica.Codes Panoptica.Generated.Bbox

def envBox (lo hi pad n : Nat) : String → Nat := fun v =>
  if v = "lo" then lo else if v = "hi" then hi else if v = "pad" then pad else if v = "n" then n else 0

theorem bbox_bounds_ok (lo hi pad n : Nat) :
    startE.eval (envBox lo hi pad n) = some (lo - pad) ∧
    stopE.eval (envBox lo hi pad n) = some (min (hi + pad) n + 1) := by
  constructor
  · simp [startE, IExpr.eval, envBox]
    all_goals omega
  · simp [stopE, IExpr.eval, envBox]
    all_goals omega

/-- what the bounds are for: after numpy's clipping the slice contains every index between the first and
    the last non-zero one, and nothing outside the axis -/
theorem bbox_covers (lo hi pad n x : Nat) (hlo : lo ≤ x) (hhi : x ≤ hi) (hn : hi < n) :
    ∃ a b, startE.eval (envBox lo hi pad n) = some a ∧ stopE.eval (envBox lo hi pad n) = some b ∧
      a ≤ x ∧ x < min b n ∧ min b n ≤ n := by
  obtain ⟨h1, h2⟩ := bbox_bounds_ok lo hi pad n
  refine ⟨_, _, h1, h2, by omega, by omega, by omega⟩

theorem paired_crop_ok :
    unionOfForegrounds = true ∧ emptyGivesWhole = true ∧ defaultPad = some 2 ∧ padPassedOn = true := ⟨rfl, rfl, rfl, rfl⟩

/-- lifted to the model: the entry `bboxNd` computes for an axis is the extracted pair -/
theorem model_bbox_is_extracted (shape : List Nat) (support : List Panoptica.Coord) (pad : Nat) :
    Panoptica.bboxNd shape support pad =
      (List.range shape.length).map (fun ax =>
        let lo := Panoptica.minOf (Panoptica.axisVals support ax)
        let hi := Panoptica.maxOf (Panoptica.axisVals support ax)
        ((startE.eval (envBox lo hi pad (shape.getD ax 0))).getD 0, (stopE.eval (envBox lo hi pad (shape.getD ax 0))).getD 0)) := by
  unfold Panoptica.bboxNd
  apply List.map_congr_left
  intro ax _
  obtain ⟨h1, h2⟩ := bbox_bounds_ok (Panoptica.minOf (Panoptica.axisVals support ax)) (Panoptica.maxOf (Panoptica.axisVals support ax)) pad (shape.getD ax 0)
  simp only [h1, h2, Option.getD_some]

end Panoptica.Extracted
