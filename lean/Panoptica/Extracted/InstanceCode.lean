/-
  Extraction obligations for the per-instance evaluation, as read from /repo's current source: an instance is the
  same label on both sides; it contributes nothing exactly when one of its two masks is empty (all four
  combinations); otherwise both masks are cut with the padded box of their union and every evaluated metric is called
  with (reference mask, prediction mask); one tuple per matched label, in `_evaluate_instance`'s parameter order (what an
  accepted instance adds to tp and the lists is `decision_loop_ok`, Extracted/Decision.lean); the evaluated pair carries the matched pair's
  own arrays and counts (prediction count to `num_pred_instances`, reference count to `num_ref_instances`).
  This is `evaluateInstance` / `evalMatched` of Model/Evaluate.lean and the `evalPhase` of Model/Pipeline.lean.
-/
import Panoptica.Generated.InstanceCode
namespace Panoptica.Extracted
open Panoptica.Generated.InstanceCode

theorem instance_guard_ok :
    ∀ rE ∈ [true, false], ∀ pE ∈ [true, false], emptyGuard.eval rE pE = some (rE || pE) := by decide

theorem instance_eval_ok :
    masks = "reference == idx, prediction == idx (the same label)" ∧ guardReturnsEmptyDict = true ∧
    crop = "box of the two masks, default padding" ∧ bothMasksCut = true ∧
    metricCall = "metric(reference mask, prediction mask)" := ⟨rfl, rfl, rfl, rfl, rfl⟩

theorem instance_collect_ok :
    instanceTuples = "one per label of the pair's matched_instances" ∧ tupleOrderIsParameterOrder = true ∧
    listsInit = "an empty list per evaluated metric" := ⟨rfl, rfl, rfl⟩

theorem instance_result_ok :
    resultWiring = [("list_metrics", "score_dict"), ("num_pred_instances", "PAIR.n_prediction_instance"),
                    ("num_ref_instances", "PAIR.n_reference_instance"), ("prediction_arr", "PAIR.prediction_arr"),
                    ("reference_arr", "PAIR.reference_arr"), ("tp", "tp")] := rfl

end Panoptica.Extracted
