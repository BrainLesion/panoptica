/-
  Extraction obligations for the layout of the results table, as read from /repo's current source: header and rows
  are built by the *same* two nested loops — groups outside, metrics inside, over the same two attributes — after a
  first cell (`subject_name` / the subject's name); a column is named `<group>-<metric>`; every group's cells come from
  a fresh `to_dict()` of that group's own result (an absent metric gives an empty cell); the loader splits a column
  name at its last `-`, files column `idx` under the idx-th name and takes the subject from the first cell.  This is
  the shape of `mkHeader` / `mkRow` / `load` in Model/Table.lean, which the C18 theorems (`aligned`,
  `header_roundtrip`, `row_width`) are about.  (The facts here are structural: the extractor recognises the shapes and
  names them; the obligations compare the names.)
-/
import Panoptica.Generated.TableCode
import Panoptica.Model.Table
namespace Panoptica.Extracted
open Panoptica.Generated.TableCode

theorem header_layout_ok :
    headerFirst = "subject_name" ∧ headerCell = ["outer", "lit:-", "inner"] ∧
    headerOuter = "self.class_group_names" ∧ headerInner = "self.evaluation_metrics" := ⟨rfl, rfl, rfl, rfl⟩

/-- rows use the very loops of the header -/
theorem row_layout_ok :
    rowFirst = "the subject name" ∧ rowOuter = headerOuter ∧ rowInner = headerInner ∧
    rowDict = "a fresh to_dict() of this group's own result, taken inside the group loop" ∧
    rowCell = "the group's value of the metric, or the empty string" ∧ rowWritten = "one row to the output file" :=
  ⟨rfl, rfl, rfl, rfl, rfl, rfl⟩

theorem loader_layout_ok :
    loaderFirstColumn = headerFirst ∧ loaderSplit = "at the last '-' of every column name after the first" ∧
    loaderFiledUnder = "column idx of the row (after the first) under the idx-th column name: (group, metric)" ∧
    loaderSubject = "first cell of the row" := ⟨rfl, rfl, rfl, rfl⟩

/-- the model's header and row have exactly this shape (groups outside, metrics inside, `g-m`) -/
theorem model_layout (groups keys : List Panoptica.Tbl.Str) (subject : Panoptica.Tbl.Str) {F : Type}
    (res : Panoptica.Tbl.Str → Panoptica.Tbl.Str → Option (Panoptica.Tbl.WVal F)) :
    Panoptica.Tbl.mkHeader groups keys =
      Panoptica.Tbl.subjectCol :: groups.flatMap (fun g => keys.map (fun m => g ++ '-' :: m)) ∧
    Panoptica.Tbl.mkRow groups keys subject res = (subject, groups.flatMap (fun g => keys.map (fun m => res g m))) := by
  exact ⟨rfl, rfl⟩

end Panoptica.Extracted
