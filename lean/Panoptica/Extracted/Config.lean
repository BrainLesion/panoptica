/-
  Extraction obligation for C19: the class descriptors and enum member lists read from /repo's
  current source equal the ones the theorems in Properties/C19.lean are about.
-/
import Panoptica.Generated.Config
namespace Panoptica.Extracted

theorem classes_eq : Panoptica.Generated.classes = Panoptica.Cfg.expectedClasses := rfl

theorem enums_eq : Panoptica.Generated.enums = Panoptica.Cfg.expectedEnums := rfl

end Panoptica.Extracted
