/-
  Extraction obligations (semantic) for the class-group evaluation, as read from /repo's current source:
  `_evaluate_group` restricts the pair's own prediction and reference array with the group and rebuilds a pair of the
  same class; the group is evaluated as one already-matched instance exactly when it is a single-instance group and
  the input is not matched input already (for both flags and all three input types); then the restricted arrays are
  wrapped as a matched pair and the decision threshold becomes 0.0 (the behaviour recorded as known finding C12 and
  contained in `evaluateGroup` of Model/Pipeline.lean), otherwise it is the configured one; `panoptic_evaluate` is
  called with the evaluator's own settings.  `extract_label` copies first, zeroes what is not in the group, and only
  a merge group binarises.
-/
import Panoptica.Generated.GroupCode
import Panoptica.Model.Pipeline
namespace Panoptica.Extracted
open Panoptica.GroupCode Panoptica.Generated.GroupCode

theorem single_cond_ok :
    ∀ single ∈ [true, false], ∀ ty ∈ [InTy.semantic, InTy.unmatched, InTy.matched],
      singleCond.eval single ty = some (single && ty != InTy.matched) := by decide

theorem single_mode_ok :
    convertedToMatchedPair = true ∧ thresholdWhenSingle = "0.0" ∧ thresholdDefault = "self.decision_threshold" := ⟨rfl, rfl, rfl⟩

theorem group_restriction_ok :
    restricted.map (·.2) = ["prediction", "reference"] ∧ rebuiltInSameClass = true := ⟨rfl, rfl⟩

theorem group_wiring_ok :
    wiring = [("decision_metric", "self.decision_metric"), ("decision_threshold", "THRESHOLD"), ("edge_case_handler", "self.edge_case_handler"),
              ("global_metrics", "self.global_metrics"), ("input_pair", "GROUPED"), ("instance_approximator", "self.instance_approximator"),
              ("instance_matcher", "self.instance_matcher"), ("instance_metrics", "self.eval_metrics")] := rfl

theorem extract_label_ok :
    extractSteps = ["copy", "zero what is not in the group", "if binary: set non-zero to 1", "return"] ∧
    plainGroupBinary = "False" ∧ mergeGroupBinary = "True" := ⟨rfl, rfl, rfl⟩

def toInput : InTy → Panoptica.InputType
  | .semantic => .SEMANTIC
  | .unmatched => .UNMATCHED
  | .matched => .MATCHED

/-- lifted to the model: the test of `evaluateGroup` is the extracted condition -/
theorem model_single_is_extracted (single : Bool) (ty : InTy) :
    (single && toInput ty != Panoptica.InputType.MATCHED) = (singleCond.eval single ty).getD false := by
  have h := single_cond_ok single (by cases single <;> decide) ty (by cases ty <;> decide)
  rw [h]
  cases single <;> cases ty <;> rfl

end Panoptica.Extracted
