/-
  Extraction obligations (semantic) for the phase program of `panoptic_evaluate`, as read from /repo's
  current source: from each of the three input types, and for both outcomes of each of the two
  zero-instance tests, the actions executed are exactly the stages of `pipeline` (Model/Pipeline.lean) in its
  order, and the run ends with a result; every call is wired with the caller's own settings (the zero-instance
  step and the evaluation get the configured instance metrics, the decision metric and threshold go to the
  evaluation, the result object is built from the evaluated pair's own fields); the input is cropped and a
  copy is processed.
-/
import Panoptica.Generated.Phases
namespace Panoptica.Extracted
open Panoptica.Phases Panoptica.Generated.Phases

/-- 3 input types × 2 × 2 outcomes of the zero-instance tests -/
theorem phases_ok :
    ∀ t ∈ [Ty.semantic, Ty.unmatched, Ty.matched], ∀ zU ∈ [true, false], ∀ zM ∈ [true, false],
      run zU zM phases t = some (expected zU zM t, Ty.result) := by decide

def wiringOf (a : Act) : List (List (String × String)) := (phases.filter (fun p => p.act = a)).map (·.wiring)

theorem wiring_ok :
    wiringOf .zeroCases = [[("0", "PAIR"), ("edge_case_handler", "edge_case_handler"), ("eval_metrics", "instance_metrics"), ("global_metrics", "global_metrics")],
                           [("0", "PAIR"), ("edge_case_handler", "edge_case_handler"), ("eval_metrics", "instance_metrics"), ("global_metrics", "global_metrics")]] ∧
    wiringOf .evaluate = [[("0", "PAIR"), ("decision_metric", "decision_metric"), ("decision_threshold", "decision_threshold"), ("eval_metrics", "instance_metrics")]] ∧
    wiringOf .mkResult = [[("edge_case_handler", "edge_case_handler"), ("global_metrics", "global_metrics"), ("list_metrics", "PAIR.list_metrics"),
                           ("num_pred_instances", "PAIR.num_pred_instances"), ("num_ref_instances", "PAIR.num_ref_instances"),
                           ("prediction_arr", "PAIR.prediction_arr"), ("reference_arr", "PAIR.reference_arr"), ("tp", "PAIR.tp")]] ∧
    wiringOf .approximate = [[("0", "PAIR")]] ∧ wiringOf .matchInstances = [[("0", "PAIR")]] := ⟨rfl, rfl, rfl, rfl, rfl⟩

theorem entry_ok : cropsBeforeCopy = true ∧ worksOnCopy = true := ⟨rfl, rfl⟩

/-- the stages, spelled out: what `pipeline` does for each input type (its `match` on the input type, the
    zero tests of `matchPhase` / `evalPhase`) -/
theorem expected_spelled_out (zU zM : Bool) :
    expected zU zM .matched = .zeroCases :: (if zM then [] else [.evaluate, .mkResult]) ∧
    expected zU zM .unmatched = .zeroCases :: (if zU then [] else .matchInstances :: expected zU zM .matched) ∧
    expected zU zM .semantic = .approximate :: expected zU zM .unmatched := by
  cases zU <;> cases zM <;> decide

end Panoptica.Extracted
