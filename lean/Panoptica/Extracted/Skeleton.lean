/-
  Extraction obligations (semantic): the lock / file-operation skeleton of `Panoptica_Aggregator`,
  as read from /repo's current source, produces — on every outcome of its guards — exactly the
  sequence of lock and file events that the model's step functions (`Agg.step`, `Agg.ctorStep`, the
  functions the C16 / C17 theorems quantify over) produce.
-/
import Panoptica.Generated.Skeleton
namespace Panoptica.Extracted
open Panoptica.Agg

/-- `evaluate` of a subject nobody has claimed: claim under `inevalfilelock`, compute outside any
    lock, append the row under `filelock` -/
theorem evaluate_fresh_ok :
    (Panoptica.Generated.evaluateProg.exec (evalEnv false)).map (·.1)
      = some (soloEvs (fun _ => 5) (initSt (fun _ => .eval) []) 0 12) := by decide

/-- `evaluate` of a claimed subject: read the claims under `inevalfilelock`, release, return -/
theorem evaluate_claimed_ok :
    (Panoptica.Generated.evaluateProg.exec (evalEnv true)).map (·.1)
      = some (soloEvs (fun _ => 5) (initSt (fun _ => .eval) [⟨5, 9, true⟩]) 0 12) := by decide

/-- `make_statistic`: read the output file under `filelock` -/
theorem stat_ok :
    (Panoptica.Generated.statProg.exec (evalEnv false)).map (·.1)
      = some (soloEvs (fun _ => 5) (initSt (fun _ => .stat) []) 0 12) := by decide

/-- the constructor's file part, in each of the ten file states -/
theorem ctor_ok :
    ∀ w ∈ ctorWorlds, (Panoptica.Generated.ctorProg.exec (ctorEnv w)).map (·.1) = some (ctorEvs w 20).1 := by
  decide +kernel

/-- the two module-level locks are two separate `multiprocessing.Lock()` objects -/
theorem locks_ok : Panoptica.Generated.moduleLocksDistinct = true := by decide

/-! ### which file each operation acts on

`evaluateProg`, `statProg` and `ctorProg` name their files `.out` / `.buf` after the *variable* that is passed; the
facts below follow the *value* of that variable through the constructor (a symbolic evaluation by the extractor: `P` is
the path given, `str`/`Path` are the identity, `+ '.tsv'` appends, the buffer is a sibling named after the stem). -/

/-- every operation classified as acting on the output file (the buffer file) is given exactly the path the
    constructor stores as the output file (the buffer file) — in every branch of the constructor, and in `evaluate`,
    `_save_one_subject` and `make_statistic`, which only see the stored attributes -/
theorem out_paths_ok :
    Panoptica.Generated.pathUses.all (fun u =>
      match Panoptica.Generated.pathBranches.find? (fun b => b.1 == u.2.2.1) with
      | some b => if u.1 == "out" then u.2.2.2 == b.2.1 else u.1 == "buf" && u.2.2.2 == b.2.2
      | none => false) = true := by decide +kernel

/-- the stored output file is the given path if it carries an extension and the given path plus `.tsv` otherwise;
    the buffer file is the sibling `<stem>_panoptica_aggregator_tmp.tsv` of *that* (resolved) path -/
theorem path_branches_ok :
    (Panoptica.Generated.pathBranches.map (fun b => (b.2.1, b.2.2))).isPerm
      [("P", "sibling(P, stem(P)+'_panoptica_aggregator_tmp.tsv')"),
       ("P+'.tsv'", "sibling(P+'.tsv', stem(P+'.tsv')+'_panoptica_aggregator_tmp.tsv')")] = true := by decide +kernel

/-- non-vacuity: the facts cover both files in both branches -/
theorem path_uses_nonempty :
    (Panoptica.Generated.pathUses.filter (fun u => u.1 == "out")).length ≥ 8 ∧
    (Panoptica.Generated.pathUses.filter (fun u => u.1 == "buf")).length ≥ 8 := by decide +kernel

end Panoptica.Extracted
