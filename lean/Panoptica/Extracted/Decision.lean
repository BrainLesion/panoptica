/-
  Extraction obligation (semantic): the loop of `evaluate_matched_instance` that turns per-instance
  metric dictionaries into tp and the per-metric lists, as read from /repo's current source, counts an
  instance and appends all its values exactly when there is no decision metric, or a threshold is set
  and the instance's decision value beats it — the model's `passesDecision` / `evalMatched`.
-/
import Panoptica.Generated.Sites
namespace Panoptica.Extracted
open Panoptica.Sites

theorem decision_loop_ok : ∀ dn ts b : Bool,
    (Panoptica.Generated.decisionLoopBody.exec (decisionVal dn ts b)).map (·.1)
      = some (if dn || (ts && b) then ["incTp", "appendAll"] else []) := by decide +kernel

end Panoptica.Extracted
