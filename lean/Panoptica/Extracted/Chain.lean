/-
  Extraction obligation (semantic): the scenario `if/elif` chain of
  `MetricZeroTPEdgeCaseHandling.__call__`, as read from /repo's current source, selects the scenario
  the model selects, on every abstract case (tp zero?, prediction count zero?, reference count zero?).
-/
import Panoptica.Generated.Sites
namespace Panoptica.Extracted
open Panoptica.Sites

theorem scenario_chain_ok : ∀ (tpZ pZ rZ : Bool), chainEval tpZ pZ rZ Panoptica.Generated.scenarioChain = some (modelChain tpZ pZ rZ) := by decide +kernel

end Panoptica.Extracted
