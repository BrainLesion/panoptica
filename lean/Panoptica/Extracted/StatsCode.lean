/-
  Extraction obligations (semantic) for the statistics side, as read from /repo's current source: a cell of the
  table is kept exactly when it holds a finite number (empty, NaN, +inf and −inf are all "missing") — the model's
  `classify`; a summary is average (`np.average`), population standard deviation (`np.std` without `ddof`), `min`
  and `max` of the value list itself, with no further arguments; `get_summary` summarises the recorded values
  with the `None`s removed; the across-groups summary is, per metric, the summary of the per-group averages.
-/
import Panoptica.Generated.StatsCode
namespace Panoptica.Extracted
open Panoptica.StatsCode Panoptica.Generated.StatsCode

/-- all five kinds of cell -/
theorem cell_classification_ok :
    ∀ k ∈ [Cell.empty, Cell.finite, Cell.nan, Cell.posInf, Cell.negInf], cellTree.eval k = some (expectedLeaf k) := by decide

/-- lifted to the model: on what the aggregator can write (a finite value, NaN, ±inf, nothing) the tree keeps the value
    exactly when `Table.classify` does -/
def cellOf {F : Type} : Option (Panoptica.Tbl.WVal F) → Cell
  | some (.fin _) => .finite
  | some .nan => .nan
  | some .inf => .posInf
  | some .ninf => .negInf
  | some .none => .empty
  | none => .empty

theorem model_classify_is_extracted {F : Type} (v : Option (Panoptica.Tbl.WVal F)) :
    (cellTree.eval (cellOf v) = some Leaf.keep) ↔ (Panoptica.Tbl.classify v).isSome = true := by
  rcases v with _ | (_ | _ | _ | _ | _) <;>
    simp [cellOf, cell_classification_ok, expectedLeaf, Panoptica.Tbl.classify]

theorem summary_fields_ok :
    (summaryFields.filter (fun f => f.1 != "value_list")).isPerm
      [("avg", "np.average", []), ("std", "np.std", []), ("min", "min", []), ("max", "max", [])] = true := by decide +kernel

theorem summary_inputs_ok :
    getFilter = "not None" ∧ summaryOf = "the recorded values without None" ∧
    acrossGroups = "per metric: the averages of get_summary over all groups" := ⟨rfl, rfl, rfl⟩

end Panoptica.Extracted
