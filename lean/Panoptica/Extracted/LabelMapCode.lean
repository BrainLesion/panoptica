/-
  Extraction obligations for `InstanceLabelMap` (utils/instancelabelmap.py), as read from /repo's current source: for EVERY
  label map and every argument (incl. `None` where the method accepts it) the extracted query expressions compute what the
  model's `LMap` functions compute — `contains_pred` = "is a key", `contains_ref` = "is a value", `contains_and` / `contains_or`
  = conjunction / disjunction with an absent argument counting as true; `get_pred_labels_matched_to_ref` collects the keys whose
  value is the reference, in insertion order (`LMap.predsOf`); `get_one_to_one_dictionary` hands out the dictionary;
  `add_labelmap_entry` raises exactly when the prediction is a key with another value and otherwise stores the reference
  (`LMap.add`, proved below to have that reading).
-/
import Panoptica.Generated.LabelMapCode
set_option linter.unusedSimpArgs false
namespace Panoptica.Extracted
open Panoptica Panoptica.LMCode Panoptica.Generated.LabelMapCode

theorem contains_pred_ok (m : LMap) (p : Lab) : contains_pred.eval m (args1 p) = some (m.containsPred p) := by
  simp [contains_pred, Q.eval, args1]

theorem contains_ref_ok (m : LMap) (r : Lab) : contains_ref.eval m (args1 r) = some (m.containsRef r) := by
  simp [contains_ref, Q.eval, args1]

/-- finishing tactic: split on the arguments being `None` and on the two membership facts, then evaluate -/
macro "lm_cases" m:ident p:ident r:ident "with" q:ident : tactic => `(tactic|
  (cases $p:ident with
   | none => cases $r:ident with
     | none => simp [$q:ident, Q.eval, args2]
     | some y => cases h : LMap.containsRef $m:ident y <;> simp [$q:ident, Q.eval, args2, h]
   | some x => cases $r:ident with
     | none => cases h : LMap.containsPred $m:ident x <;> simp [$q:ident, Q.eval, args2, h]
     | some y => cases h : LMap.containsPred $m:ident x <;> cases h' : LMap.containsRef $m:ident y <;>
         simp [$q:ident, Q.eval, args2, h, h']))

theorem contains_and_ok (m : LMap) (p r : Option Lab) :
    contains_and.eval m (args2 p r) = some ((p.map m.containsPred).getD true && (r.map m.containsRef).getD true) := by
  lm_cases m p r with contains_and

theorem contains_or_ok (m : LMap) (p r : Option Lab) :
    contains_or.eval m (args2 p r) = some ((p.map m.containsPred).getD true || (r.map m.containsRef).getD true) := by
  lm_cases m p r with contains_or

theorem matched_to_ref_ok :
    matchedToRef_over = "the entries in insertion order" ∧ matchedToRef_collects = "key" ∧
    matchedToRef_condition = "value == argument 0" ∧ oneToOne_returns = "the dictionary" := ⟨rfl, rfl, rfl, rfl⟩

/-- the raising guard, for all four situations: raises iff the prediction is a key whose value differs -/
theorem add_guard_ok :
    ∀ k ∈ [true, false], ∀ d ∈ [true, false], add_raiseGuard.eval k d = some (k && d) := by decide

theorem add_entry_ok :
    add_loopOver = "the prediction labels (a single label is wrapped into a list)" ∧ add_thenSets = "labelmap[p] = reference label" := ⟨rfl, rfl⟩

/-- the model's `LMap.add` read the same way: an error iff the prediction is mapped to another reference -/
theorem model_add_is_extracted (m : LMap) (p r : Lab) :
    (∃ e, m.add p r = .error e) ↔ ∃ r', m.lookup p = some r' ∧ r' ≠ r := by
  unfold LMap.add
  cases h : m.lookup p with
  | none => simp
  | some r' =>
    by_cases hr : r' = r
    · simp [hr]
    · simp [hr]

end Panoptica.Extracted
