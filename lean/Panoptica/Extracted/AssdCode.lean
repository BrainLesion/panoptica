/-
  Extraction obligations for the structure of the ASSD computation, as read from /repo's current source: the
  symmetric distance is `np.mean` of exactly two directed averages, one in each direction, with the caller's
  connectivity and spacing; a directed average is the mean of the surface distances; the masks are made boolean
  (`np.atleast_1d(x.astype(bool))`, nothing else is done to them — no squeeze, no crop); both borders are
  `x ^ binary_erosion(x, structure, iterations=1)` with the structuring element of connectivity 1 by default
  (face neighbours; outside the array counts as background); the distance map is that of the reference border and
  is read at the prediction border.  This is `surfaceSqDists` / `border` of Model/Geometry.lean, which the C07
  theorems are about.  (Structural facts: the extractor recognises the shapes, the obligations compare.)
-/
import Panoptica.Generated.AssdCode
import Panoptica.Model.Geometry
namespace Panoptica.Extracted
open Panoptica.Generated.AssdCode

theorem assd_symmetric_ok :
    directed.isPerm [("reference", "prediction", "connectivity", "voxelspacing"), ("prediction", "reference", "connectivity", "voxelspacing")] = true ∧
    combine = "np.mean of exactly the two directed values" := ⟨by decide +kernel, rfl⟩

theorem assd_directed_ok :
    asdArgs = "its own (reference, prediction, voxelspacing, connectivity) in that order" ∧ asdReduce = "mean of the distances" := ⟨rfl, rfl⟩

theorem assd_surface_ok :
    maskPreparation = [("prediction", "np.atleast_1d(x.astype(bool))"), ("reference", "np.atleast_1d(x.astype(bool))")] ∧
    footprint = "generate_binary_structure(ndim, connectivity)" ∧ defaultConnectivity = some 1 ∧
    borders = [("prediction", "x ^ binary_erosion(x, structure=footprint, iterations=1)"),
               ("reference", "x ^ binary_erosion(x, structure=footprint, iterations=1)")] ∧
    distanceMapOf = "complement of the reference border, sampling=None" ∧ readAt = "the prediction border" ∧
    returns = "the distances read" := ⟨rfl, rfl, rfl, rfl, rfl, rfl, rfl⟩

/-- the model has this shape: for every border voxel of the prediction, the distance to the nearest border voxel
    of the reference -/
theorem model_surface_shape (ref pred : List Panoptica.Coord) :
    Panoptica.surfaceSqDists ref pred =
      (Panoptica.border pred).filterMap (fun p => Panoptica.nearestSq p (Panoptica.border ref)) := rfl

end Panoptica.Extracted
