/-
  Extraction obligations (semantic): the bodies of the two matcher loops, as read from /repo's
  current source, do in every abstract situation (prediction already assigned? reference already
  assigned? many-to-one allowed? candidate passes the threshold? direction of the metric, and how the
  merged score compares with the stored one) exactly what the model's `naiveStep` / `mergeStep` do.
-/
import Panoptica.Generated.Sites
namespace Panoptica.Extracted
open Panoptica.Sites

theorem naive_loop_ok :
    ∀ v ∈ LEnv.all, (Panoptica.Generated.naiveLoopBody.exec v).map (·.1) = some (naiveAbs v) := by decide +kernel

theorem merge_loop_ok :
    ∀ v ∈ LEnv.all, (Panoptica.Generated.mergeLoopBody.exec v).map (·.1) = some (mergeAbs v) := by decide +kernel

end Panoptica.Extracted
