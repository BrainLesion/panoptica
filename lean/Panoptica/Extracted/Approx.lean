/-
  Extraction obligations (semantic) for the instance approximation, as read from /repo's current source:
  the backend is the configured one, else cc3d for three or more axes and scipy below (`defaultBackend`), and the
  method does not write to the approximator; on each side the side's own array goes through
  `_connected_components` with that backend unless the side's own label list is empty (then the array itself, count
  0); the result dtype is the one chosen for the larger of the two maxima, both arrays are cast and each count goes to
  its side; `_connected_components` calls `cc3d.connected_components(array, return_N=True)` (default connectivity: all
  neighbours) resp. `scipy.ndimage.label(array)` (default structure: face neighbours) and reports the library's count.
  This is the SEMANTIC branch of `pipeline` in Model/Pipeline.lean and `backendAdj` of Model/Geometry.lean.
-/
import Panoptica.Generated.Approx
import Panoptica.Model.Pipeline
namespace Panoptica.Extracted
open Panoptica.Codes Panoptica.Generated.Approx

def toModel : Bk → Option Panoptica.Backend
  | .cc3d => some .cc3d
  | .scipy => some .scipy
  | .other _ => none

/-- the default backend, for every number of axes -/
theorem backend_default_ok (nd : Nat) :
    (ndCond.eval (env1 "nd" nd)).bind (fun b => toModel (if b then onTrue else onFalse)) = some (Panoptica.defaultBackend nd) := by
  simp only [ndCond, onTrue, onFalse, Cmp.eval, IExpr.eval, env1, Panoptica.defaultBackend]
  by_cases h : nd ≥ 3 <;> simp [h, toModel] <;> omega

theorem backend_config_ok : usesConfiguredBackend = true ∧ writesToSelf = false ∧ bothSidesUseTheChosenBackend = true := ⟨rfl, rfl, rfl⟩

theorem sides_ok : predSide = ("pred", "pred", true) ∧ refSide = ("ref", "ref", true) := ⟨rfl, rfl⟩

def envPR (pmax rmax : Nat) : String → Nat := fun n => if n = "pmax" then pmax else if n = "rmax" then rmax else 0

theorem result_dtype_ok (pmax rmax : Nat) :
    dtypeArg.eval (envPR pmax rmax) = some (max pmax rmax) ∧ castBoth = true ∧ countsToTheirSides = true := by
  refine ⟨?_, by decide, by decide⟩
  simp [dtypeArg, IExpr.eval, envPR]
  all_goals omega

/-- the two library calls, with their default neighbourhoods, on the array itself; the count is the library's -/
theorem cc_dispatch_ok :
    dispatch.isPerm [(.cc3d, "cc3d.connected_components", true, ["return_N=True"]), (.scipy, "label", true, [])] = true ∧
    countIsTheLibrarysCount = true := ⟨by decide +kernel, rfl⟩

/-- lifted to the model: the backend `pipeline` uses for semantic input is the extracted choice -/
theorem model_backend_is_extracted (cfgBackend : Option Panoptica.Backend) (nd : Nat) :
    cfgBackend.getD (Panoptica.defaultBackend nd) =
      (match cfgBackend with
       | some b => b
       | none => ((ndCond.eval (env1 "nd" nd)).bind (fun b => toModel (if b then onTrue else onFalse))).getD .scipy) := by
  cases cfgBackend with
  | some b => rfl
  | none => rw [backend_default_ok]; rfl

end Panoptica.Extracted
